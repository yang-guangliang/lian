import LianVerif.Proofs.ListAux
import LianVerif.Model.PathStore
import LianVerif.Spec.MaxPaths
import LianVerif.Proofs.PathStore
import LianVerif.Properties.C19
import LianVerif.Model.Lru
import LianVerif.Model.Loader
import LianVerif.Model.MapLoader
import LianVerif.Spec.LoaderSpec
import LianVerif.Proofs.Lru
import LianVerif.Proofs.Loader
import LianVerif.Proofs.MapLoader
import LianVerif.Properties.C15
import LianVerif.Model.Cfg
import LianVerif.Spec.Ctl
import LianVerif.Proofs.Ctl
import LianVerif.Proofs.CfgSound
import LianVerif.Properties.C04
import LianVerif.Model.Determinism
import LianVerif.Proofs.Determinism
import LianVerif.Properties.C14
import LianVerif.Model.WorkList
import LianVerif.Model.ReachDef
import LianVerif.Spec.ClassicalRD
import LianVerif.Proofs.ReachDef
import LianVerif.Properties.C06
import LianVerif.Model.Events
import LianVerif.Spec.Events
import LianVerif.Proofs.Events
import LianVerif.Properties.C17
import LianVerif.Model.Scope
import LianVerif.Model.Resolver
import LianVerif.Spec.Lexical
import LianVerif.Model.Hoist
import LianVerif.Proofs.Resolver
import LianVerif.Proofs.Scope
import LianVerif.Properties.C05
import LianVerif.Model.Termination
import LianVerif.Model.TerminationFrames
import LianVerif.Model.TerminationTaint
import LianVerif.Model.TerminationClosure
import LianVerif.Model.TerminationTotal
import LianVerif.Spec.TerminationBounds
import LianVerif.Properties.C13
import LianVerif.Gir.Rows
import LianVerif.Gir.Tree
import LianVerif.Gir.Flatten
import LianVerif.Gir.WellFormed
import LianVerif.Model.MainFunc
import LianVerif.Model.LangRun
import LianVerif.Model.Consumers
import LianVerif.Proofs.WellFormed
import LianVerif.Proofs.Flatten
import LianVerif.Proofs.MainFunc
import LianVerif.Proofs.LangRun
import LianVerif.Proofs.Consumers
import LianVerif.Properties.C03
import LianVerif.Model.Frame
import LianVerif.Model.Table
import LianVerif.Model.TableAlias
import LianVerif.Model.BlockView
import LianVerif.Proofs.Table
import LianVerif.Proofs.TableAlias
import LianVerif.Proofs.FrameWF
import LianVerif.Proofs.ScanWF
import LianVerif.Proofs.BlockView
import LianVerif.Spec.Scan
import LianVerif.Properties.C16
import LianVerif.Spec.Fs
import LianVerif.Model.Workspace
import LianVerif.Model.WorkspaceSites
import LianVerif.Proofs.Fs
import LianVerif.Proofs.Workspace
import LianVerif.Proofs.WorkspaceMain
import LianVerif.Proofs.WorkspaceBound
import LianVerif.Properties.C18
import LianVerif.Model.EntryPoints
import LianVerif.Spec.EntrySelect
import LianVerif.Proofs.EntryPoints
import LianVerif.Properties.C20
import LianVerif.Gir.Sem
import LianVerif.Spec.PySrc
import LianVerif.Model.LowerPy
import LianVerif.Properties.C01
import LianVerif.Proofs.GirStore
import LianVerif.Proofs.LowerSim
import LianVerif.Proofs.LowerPy
import LianVerif.Proofs.LowerPyStmt
import LianVerif.Proofs.LowerPyLoop
import LianVerif.Model.Frames
import LianVerif.Spec.FramesWitness
import LianVerif.Model.Sched
import LianVerif.Spec.SchedWitness
import LianVerif.Proofs.Frames
import LianVerif.Proofs.FramesAcyclic
import LianVerif.Properties.C07
import LianVerif.Model.Sfg
import LianVerif.Model.TaintRules
import LianVerif.Model.Taint
import LianVerif.Spec.Reach
import LianVerif.Proofs.Taint
import LianVerif.Proofs.TaintRules
import LianVerif.Proofs.TaintComplete
import LianVerif.Proofs.TaintTerm
import LianVerif.Spec.TaintWitness
import LianVerif.Properties.C10
import LianVerif.Properties.C11
import LianVerif.Spec.PyStrLit
import LianVerif.Model.Fold
import LianVerif.Model.Aref
import LianVerif.Proofs.PyStrLit
import LianVerif.Proofs.Fold
import LianVerif.Proofs.Aref
import LianVerif.Proofs.ArefExact
import LianVerif.Spec.Collect
import LianVerif.Properties.C08
import LianVerif.Properties.C09
import LianVerif.Model.PyImportPre
import LianVerif.Model.Meta
import LianVerif.Proofs.MetaPyImport
import LianVerif.Proofs.MetaRows
import LianVerif.Proofs.MetaResolver
import LianVerif.Proofs.MetaCfgSimp
import LianVerif.Proofs.MetaCfg
import LianVerif.Proofs.MetaMainFunc
import LianVerif.Proofs.MetaScope
import LianVerif.Proofs.MetaSummary
import LianVerif.Properties.C12
import LianVerif.Spec.Core
import LianVerif.Model.Vocabulary
import LianVerif.Properties.C02
import LianVerif.Model.LowerCore
import LianVerif.Proofs.LowerCore
import LianVerif.Model.TerminationPrelim
import LianVerif.Proofs.TerminationPrelim
