/-
C17 (EventManager, event_return).  The flag algebra comes down to `sync l g = g ||| norm l` with `norm`
a bit mask in closed form; with it the loop of `notify` is the statement's `fullRun` cut by
`takeThrough` after the first return that requests blocking (`loop_eq`).  The handler table is an
association list with lookup equations for `append`/`register`/`registerList`.
-/
import LianVerif.Model.Events
import LianVerif.Spec.Events

namespace LianVerif.Events

theorem and_two_pow (r i : Nat) : r &&& 2 ^ i = if r.testBit i then 2 ^ i else 0 := by
  apply Nat.eq_of_testBit_eq
  intro j
  rw [Nat.testBit_and, Nat.testBit_two_pow]
  by_cases h : i = j
  · subst h; cases r.testBit i <;> simp
  · cases r.testBit i <;> simp [h]

/-- the flag a bit test contributes, as `sync` and `norm` write it -/
theorem ite_and_two_pow (r i : Nat) : (if (r &&& 2 ^ i != 0) = true then 2 ^ i else 0) = r &&& 2 ^ i := by
  rw [and_two_pow]
  cases r.testBit i <;> simp

theorem blocksOthers_flag (r : Nat) : (if blocksOthers r = true then STOP_OTHER_EVENT_HANDLERS else 0) = r &&& 2 :=
  ite_and_two_pow r 1

theorem blocksRequester_flag (r : Nat) : (if blocksRequester r = true then STOP_REQUESTERS else 0) = r &&& 4 :=
  ite_and_two_pow r 2

theorem interruptsCall_flag (r : Nat) : (if interruptsCall r = true then INTERRUPTION_CALL else 0) = r &&& 8 :=
  ite_and_two_pow r 3

theorem norm_closed (r : Nat) : norm (some r) = (r &&& 14) ||| (if r = 0 then 0 else 1) := by
  have e14 : r &&& 14 = r &&& 2 ||| r &&& 4 ||| r &&& 8 := by
    rw [← Nat.and_or_distrib_left, ← Nat.and_or_distrib_left]; rfl
  rw [norm, blocksOthers_flag, blocksRequester_flag, interruptsCall_flag, e14]
  by_cases h0 : r = 0
  · subst h0; rfl
  · rw [if_neg h0, isProcessed, if_pos (show (r != UNPROCESSED) = true from bne_iff_ne.2 h0), Nat.or_comm _ 1,
      ← Nat.or_assoc, ← Nat.or_assoc]
    rfl

theorem ite_or (c : Prop) [Decidable c] (g b : Nat) : (if c then g ||| b else g) = g ||| if c then b else 0 := by
  split
  · rfl
  · exact (Nat.or_zero g).symm

theorem sync_eq_or_norm (l : Option Nat) (g : Nat) : sync l g = g ||| norm l := by
  cases l with
  | none => exact (Nat.or_zero g).symm
  | some r =>
    unfold sync norm
    simp only [ite_or]
    simp only [Nat.or_assoc]

theorem norm_lt (l : Option Nat) : norm l < 16 := by
  cases l with
  | none => decide
  | some r =>
    rw [norm_closed]
    refine Nat.or_lt_two_pow (n := 4) (Nat.lt_of_le_of_lt Nat.and_le_right ?_) ?_
    · decide
    · split <;> decide

theorem blocksOthers_or (a b : Nat) :
    blocksOthers (a ||| b) = (blocksOthers a || blocksOthers b) := by
  simp only [blocksOthers, Nat.and_or_distrib_right]
  generalize a &&& STOP_OTHER_EVENT_HANDLERS = x
  generalize b &&& STOP_OTHER_EVENT_HANDLERS = y
  rw [Bool.eq_iff_iff]
  simp only [bne_iff_ne, Bool.or_eq_true, ne_eq, Nat.or_eq_zero_iff]
  exact Decidable.not_and_iff_not_or_not

theorem blocksOthers_norm (l : Option Nat) : blocksOthers (norm l) = blocksRet l := by
  cases l with
  | none => rfl
  | some r =>
    have h14 : blocksOthers (r &&& 14) = blocksOthers r := by
      unfold blocksOthers; rw [Nat.and_assoc]; rfl
    rw [norm_closed, blocksOthers_or, h14]
    split <;> exact Bool.or_false _

/-- lets `notify`'s test on the accumulated value be read as "this handler blocks" -/
theorem blocksOthers_sync (l : Option Nat) (g : Nat) :
    blocksOthers (sync l g) = (blocksOthers g || blocksRet l) := by
  rw [sync_eq_or_norm, blocksOthers_or, blocksOthers_norm]

theorem norm_documented (l : Option Nat) (h : documented l = true) : norm l = l.getD 0 := by
  cases l with
  | none => cases h
  | some r =>
    simp only [documented, Bool.or_eq_true, Bool.and_eq_true, decide_eq_true_eq] at h
    rcases h with h | ⟨h1, h2⟩
    · rw [beq_iff_eq.1 h]; rfl
    · -- the documented values are 0 and the odd numbers below 16: on them `norm` changes nothing
      have tbl : ∀ r < 16, (r == 0 || r % 2 == 1) = true → norm (some r) = r := by decide +kernel
      exact tbl r h1 (by rw [h2, Bool.or_true])

theorem foldl_or_shift {α : Type} (f : α → Nat) (l : List α) : ∀ b : Nat,
    l.foldl (fun a r => a ||| f r) b = b ||| l.foldl (fun a r => a ||| f r) 0 := by
  induction l with
  | nil => intro b; exact (Nat.or_zero b).symm
  | cons r rs ih =>
    intro b
    rw [List.foldl_cons, List.foldl_cons, ih (b ||| f r), ih (0 ||| f r), Nat.zero_or, Nat.or_assoc]

theorem unionNorm_cons (r : Option Nat) (rs : List (Option Nat)) :
    unionNorm (r :: rs) = norm r ||| unionNorm rs := by
  unfold unionNorm; rw [List.foldl_cons, foldl_or_shift, Nat.zero_or]

theorem unionRaw_cons (r : Option Nat) (rs : List (Option Nat)) :
    unionRaw (r :: rs) = r.getD 0 ||| unionRaw rs := by
  unfold unionRaw; rw [List.foldl_cons, foldl_or_shift, Nat.zero_or]

theorem norm_as_raw (r : Option Nat) :
    norm r = (r.getD 0 &&& 14) ||| (nonZeroRet r).toNat := by
  cases r with
  | none => rfl
  | some x =>
    rw [norm_closed]
    by_cases h : x = 0
    · subst h; rfl
    · simp only [nonZeroRet, Option.getD_some, h, if_false, bne_iff_ne.2 h, Bool.toNat_true]

theorem toNat_or (p q : Bool) : (p || q).toNat = p.toNat ||| q.toNat := by
  cases p <;> cases q <;> rfl

theorem unionNorm_closed (rets : List (Option Nat)) :
    unionNorm rets = (unionRaw rets &&& 14) ||| (anyNonZero rets).toNat := by
  induction rets with
  | nil => rfl
  | cons r rs ih =>
    rw [unionNorm_cons, unionRaw_cons, ih, norm_as_raw, Nat.and_or_distrib_right]
    show _ = _ ||| (nonZeroRet r || anyNonZero rs).toNat
    rw [toNat_or]
    ac_rfl

theorem unionNorm_eq_unionRaw (rets : List (Option Nat))
    (h : ∀ r ∈ rets, documented r = true) : unionNorm rets = unionRaw rets := by
  induction rets with
  | nil => rfl
  | cons r rs ih =>
    rw [unionNorm_cons, unionRaw_cons, norm_documented r (h r List.mem_cons_self),
      ih fun x hx => h x (List.mem_cons_of_mem _ hx)]

section TakeThrough
variable {α : Type} (p : α → Bool)

theorem takeThrough_prefix : ∀ l : List α, takeThrough p l <+: l
  | [] => List.prefix_refl _
  | a :: as => by
    unfold takeThrough
    split
    · exact ⟨as, rfl⟩
    · exact (List.cons_prefix_cons).2 ⟨rfl, takeThrough_prefix as⟩

theorem takeThrough_dropLast : ∀ l : List α, ∀ a ∈ (takeThrough p l).dropLast, p a = false
  | [], a, h => by simp [takeThrough] at h
  | b :: bs, a, h => by
    simp only [takeThrough] at h
    split at h
    · simp at h
    · rename_i hb
      cases hbs : takeThrough p bs with
      | nil => rw [hbs] at h; simp at h
      | cons c cs =>
        rw [hbs, List.dropLast_cons_cons] at h
        rcases List.mem_cons.1 h with rfl | h
        · simpa using hb
        · exact takeThrough_dropLast bs a (by rw [hbs]; exact h)

theorem takeThrough_short : ∀ l : List α, (takeThrough p l).length < l.length →
    ∃ a, (takeThrough p l).getLast? = some a ∧ p a = true
  | [], h => by simp [takeThrough] at h
  | b :: bs, h => by
    simp only [takeThrough] at h ⊢
    split
    · rename_i hb; exact ⟨b, rfl, hb⟩
    · rename_i hb
      rw [if_neg hb] at h
      simp only [List.length_cons, Nat.add_lt_add_iff_right] at h
      obtain ⟨a, ha, hpa⟩ := takeThrough_short bs h
      refine ⟨a, ?_, hpa⟩
      rw [List.getLast?_cons, ha]; rfl

theorem takeThrough_all (l : List α) (h : ∀ a ∈ l, p a = false) : takeThrough p l = l := by
  induction l with
  | nil => rfl
  | cons b bs ih =>
    unfold takeThrough
    rw [if_neg (by simp [h b (List.mem_cons_self)])]
    rw [ih (fun a ha => h a (List.mem_cons_of_mem _ ha))]

theorem takeThrough_contains_first (l : List α) (a : α) (h : l.find? p = some a) :
    (takeThrough p l).getLast? = some a := by
  induction l with
  | nil => simp at h
  | cons b bs ih =>
    unfold takeThrough
    by_cases hb : p b = true
    · rw [if_pos hb]
      rw [List.find?_cons_of_pos hb] at h
      simpa using h
    · rw [if_neg hb]
      rw [List.find?_cons_of_neg hb] at h
      rw [List.getLast?_cons, ih h]; rfl

end TakeThrough

theorem getElem?_take_of_prefix {α : Type} {T F : List α} (hpre : T <+: F) (k : Nat) (e : α)
    (h : T[k]? = some e) : F[k]? = some e ∧ F.take k = T.take k := by
  obtain ⟨s, rfl⟩ := hpre
  have hk : k < T.length := by
    rcases Nat.lt_or_ge k T.length with hk | hk
    · exact hk
    · rw [List.getElem?_eq_none hk] at h; exact absurd h (by simp)
  refine ⟨?_, ?_⟩
  · rw [List.getElem?_append_left hk]; exact h
  · rw [List.take_append_of_le_length (Nat.le_of_lt hk)]

section Loop
variable {L D : Type} [DecidableEq L]

theorem loop_filter (anyL lang : L) (beh : Beh D) (rs : List (Reg L)) :
    ∀ acc i o, loop anyL lang beh rs acc i o =
      loop anyL lang beh (rs.filter (matchesLang anyL lang)) acc i o := by
  induction rs with
  | nil => intro acc i o; rfl
  | cons r rs ih =>
    intro acc i o
    by_cases hm : matchesLang anyL lang r = true
    · rw [List.filter_cons_of_pos hm]
      unfold loop
      simp only [if_pos hm]
      rw [ih]
    · rw [List.filter_cons_of_neg hm, loop, if_neg hm]
      exact ih acc i o

/-- The loop in the statement's terms: its run cut after the first handler whose own return requests
blocking.  `acc` must not already request blocking (it is 0 at entry). -/
theorem loop_eq (anyL lang : L) (beh : Beh D) (rs : List (Reg L)) :
    ∀ acc i o, blocksOthers acc = false →
      loop anyL lang beh rs acc i o =
        let T := takeThrough (fun e => blocksRet e.ret) (fullRun beh (rs.filter (matchesLang anyL lang)) i o)
        { flags := (T.map (·.ret)).foldl (fun a r => a ||| norm r) acc
          inD := (T.getLast?.map finalIn).getD i
          outD := (T.getLast?.map (·.outLeft)).getD o
          trace := T } := by
  induction rs with
  | nil => intro acc i o _; rfl
  | cons r rs ih =>
    intro acc i o hacc
    by_cases hm : matchesLang anyL lang r = true
    · simp only [List.filter_cons_of_pos hm, loop, if_pos hm, fullRun, takeThrough, blocksOthers_sync, hacc,
        Bool.false_or]
      cases hb : blocksRet (beh r.h i o).1 with
      | true =>
        -- the run is cut here: one entry, and `finalIn` of a blocking entry is the `in_data` it saw
        simp [hb, finalIn, sync_eq_or_norm]
      | false =>
        simp only [Bool.false_eq_true, if_false]
        rw [ih _ _ _ (by rw [blocksOthers_sync, hacc, hb]; rfl)]
        generalize takeThrough _ (fullRun beh _ _ _) = T
        simp only [List.map_cons, List.foldl_cons, sync_eq_or_norm, List.getLast?_cons]
        -- the records differ only where `T` is empty and the head entry is the last: it does not
        -- block, so its `finalIn` is the `in_data` handed on
        cases T.getLast? with
        | none => simp [finalIn, hb]
        | some e => rfl
    · rw [List.filter_cons_of_neg hm, loop, if_neg hm]
      exact ih acc i o hacc

omit [DecidableEq L] in
theorem fullRun_handlers (beh : Beh D) (rs : List (Reg L)) :
    ∀ i o, (fullRun beh rs i o).map (·.h) = rs.map (·.h) := by
  induction rs with
  | nil => intro i o; rfl
  | cons r rs ih => intro i o; simp [fullRun, ih]

omit [DecidableEq L] in
theorem fullRun_length (beh : Beh D) (rs : List (Reg L)) (i o : D) :
    (fullRun beh rs i o).length = rs.length := by
  have := congrArg List.length (fullRun_handlers beh rs i o)
  simpa using this

omit [DecidableEq L] in
theorem fullRun_consistent (beh : Beh D) (rs : List (Reg L)) :
    ∀ i o, ∀ e ∈ fullRun beh rs i o, e.ret = (beh e.h e.inSeen e.outSeen).1 ∧
      e.outLeft = (beh e.h e.inSeen e.outSeen).2 := by
  induction rs with
  | nil => intro i o e h; simp [fullRun] at h
  | cons r rs ih =>
    intro i o e h
    simp only [fullRun, List.mem_cons] at h
    rcases h with rfl | h
    · exact ⟨rfl, rfl⟩
    · exact ih _ _ e h

omit [DecidableEq L] in
/-- `in_data` is the `out_data` of the last earlier call that processed the event, `out_data` that of
the call before -/
theorem fullRun_sees (beh : Beh D) (rs : List (Reg L)) :
    ∀ i o k e, (fullRun beh rs i o)[k]? = some e →
      e.inSeen = ((((fullRun beh rs i o).take k).reverse.find? (fun x => processedRet x.ret)).map
        (·.outLeft)).getD i ∧
      e.outSeen = ((((fullRun beh rs i o).take k).getLast?).map (·.outLeft)).getD o := by
  induction rs with
  | nil => intro i o k e h; simp [fullRun] at h
  | cons r rs ih =>
    intro i o k e h
    cases k with
    | zero =>
      simp only [fullRun, List.getElem?_cons_zero, Option.some.injEq] at h
      subst h
      simp
    | succ k =>
      simp only [fullRun, List.getElem?_cons_succ] at h
      obtain ⟨ih1, ih2⟩ := ih _ _ k e h
      simp only [fullRun, List.take_succ_cons, List.reverse_cons, List.find?_append]
      generalize List.take k (fullRun beh rs _ _) = T at ih1 ih2 ⊢
      refine ⟨?_, ?_⟩
      · rw [ih1]
        cases T.reverse.find? (fun x => processedRet x.ret) with
        | some x => simp
        | none => by_cases hp : processedRet (beh r.h i o).1 = true <;> simp [hp]
      · rw [ih2, List.getLast?_cons]
        cases T.getLast? <;> simp

end Loop

section Table
variable {E L : Type} [DecidableEq E]

theorem get_cons (kv : E × List (Reg L)) (t : Table E L) (e : E) :
    Table.get (kv :: t) e = if kv.1 = e then some kv.2 else Table.get t e := rfl

theorem append_cons (kv : E × List (Reg L)) (t : Table E L) (e : E) (r : Reg L) :
    Table.append (kv :: t) e r = if kv.1 = e then (kv.1, kv.2 ++ [r]) :: t else kv :: Table.append t e r := rfl

theorem get_append (t : Table E L) (e e' : E) (r : Reg L) :
    (t.append e r).get e' = if e' = e then (t.get e).map (· ++ [r]) else t.get e' := by
  induction t with
  | nil => split <;> rfl
  | cons kv t ih =>
    rw [append_cons, get_cons, get_cons]
    by_cases hk : kv.1 = e
    · subst hk
      by_cases he : e' = kv.1
      · simp [get_cons, he]
      · simp [get_cons, he, Ne.symm he]
    · by_cases he : kv.1 = e'
      · simp [get_cons, he, he ▸ hk]
      · simp [get_cons, ih, hk, he]

def regOf (x : E × Nat × LangArg L) : Reg L := { langs := normLangs x.2.2, h := x.2.1 }

theorem get_register (t : Table E L) (e e' : E) (h : Nat) (la : LangArg L) :
    (register t e h la).1.get e' =
      if e' = e then (t.get e).map (· ++ [{ langs := normLangs la, h := h }]) else t.get e' := by
  unfold register
  cases hg : t.get e with
  | none => split <;> simp_all
  | some v => rw [get_append, hg]

theorem get_registerList (xs : List (E × Nat × LangArg L)) :
    ∀ (t : Table E L) (e : E), (registerList t xs).get e =
      (t.get e).map (· ++ (xs.filter (fun x => x.1 = e)).map regOf) := by
  induction xs with
  | nil => intro t e; cases h : t.get e <;> simp [registerList, h]
  | cons x xs ih =>
    intro t e
    obtain ⟨e1, h1, la1⟩ := x
    simp only [registerList]
    rw [ih, get_register]
    by_cases he : e = e1
    · subst he
      rw [if_pos rfl, Option.map_map, List.filter_cons_of_pos (by simp), List.map_cons]
      exact congrArg (Option.map · _) (funext fun v => List.append_assoc v _ _)
    · rw [if_neg he, List.filter_cons_of_neg (by simpa using Ne.symm he)]

theorem get_emptyTable (keys : List E) (e : E) :
    (emptyTable keys : Table E L).get e = if e ∈ keys then some [] else none := by
  induction keys with
  | nil => rfl
  | cons k ks ih =>
    by_cases hk : k = e
    · simp [emptyTable, Table.get, hk]
    · have : ¬ e = k := fun h => hk h.symm
      simp only [emptyTable, List.map_cons, Table.get, hk, if_false, List.mem_cons, this, false_or]
      exact ih

end Table

end LianVerif.Events
