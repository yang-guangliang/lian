/-
On a table that is a top-level level of the grammar with unique ids, the consumers do not fail:
the `GIRBlockViewer` constructor returns and `DataModel.read_block` finds exactly two rows for every
block id.
-/
import LianVerif.Model.Consumers
import LianVerif.Proofs.Flatten

namespace LianVerif.Gir
open LianVerif.Consumers

/-- every id already scanned is introduced by a scanned row (a `block_end` comes after its
`block_start`) -/
def IdsDefined (done : Rows) : Prop := ∀ x ∈ done, x.id ∈ defIds done

theorem IdsDefined.snoc {done : Rows} {r : Row} (hc : IdsDefined done) (hr : r.id ∈ defIds (done ++ [r])) :
    IdsDefined (done ++ [r]) := by
  intro x hx
  rcases List.mem_append.1 hx with h | h
  · exact defIds_mono (fun s hs => List.mem_append_left _ hs) (hc x h)
  · rwa [List.mem_singleton.1 h]

theorem fresh_of_nodup {done more : Rows} {r : Row} (he : r.isEnd = false)
    (hnd : (defIds (done ++ r :: more)).Nodup) (hc : IdsDefined done) : ∀ x ∈ done, x.id ≠ r.id := by
  intro x hx hid
  rw [defIds_append, defIds_cons_of_not_end he] at hnd
  exact (List.nodup_append.1 hnd).2.2 _ (hc x hx) _ List.mem_cons_self hid

theorem firstWith_none {done : Rows} {i : Nat} (h : ∀ x ∈ done, x.id ≠ i) : firstWith done i = none := by
  simp only [firstWith, List.find?_eq_none, beq_iff_eq]
  exact fun x hx => h x hx

theorem firstWith_append_of_none {done more : Rows} {i : Nat} (h : firstWith done i = none) :
    firstWith (done ++ more) i = firstWith more i := by
  unfold firstWith at h ⊢
  rw [List.find?_append, h, Option.none_or]

theorem dupOk_fresh {done : Rows} {r : Row} (h : ∀ x ∈ done, x.id ≠ r.id) : dupOk done r = true := by
  simp [dupOk, firstWith_none h]

theorem viewGo_stmt {done : Rows} {stack : List Nat} {r : Row} {rest : Rows} (hd : dupOk done r = true)
    (hm : r.isMarker = false) : viewGo done stack (r :: rest) = viewGo (done ++ [r]) stack rest := by
  obtain ⟨hs, he⟩ := isMarker_false_iff.1 hm
  simp [viewGo, hd, hs, he]

theorem viewGo_start {done : Rows} {stack : List Nat} {r : Row} {rest : Rows} (hd : dupOk done r = true)
    (hs : r.isStart = true) : viewGo done stack (r :: rest) = viewGo (done ++ [r]) (r.id :: stack) rest := by
  simp [viewGo, hd, hs]

theorem viewGo_end {done : Rows} {stack : List Nat} {r : Row} {rest : Rows} (hd : dupOk done r = true)
    (he : r.isEnd = true) : viewGo done (r.id :: stack) (r :: rest) = viewGo (done ++ [r]) stack rest := by
  simp [viewGo, hd, isEnd_not_isStart he, he]

/-- scanning a complete level from any state is the same as having it in `done` -/
theorem viewGo_shape {p : Nat} {last : Option Row} {pre : Rows} (h : Shape p last pre) :
    ∀ (done : Rows) (stack : List Nat) (rest : Rows),
      (defIds (done ++ (pre ++ rest))).Nodup → IdsDefined done →
      viewGo done stack (pre ++ rest) = viewGo (done ++ pre) stack rest ∧ IdsDefined (done ++ pre) := by
  induction h with
  | nil => intro done stack rest _ hc; simpa using hc
  | @stmt p last r rest' hm hp _ ih =>
    intro done stack rest hnd hc
    have he := (isMarker_false_iff.1 hm).2
    obtain ⟨h1, h2⟩ := ih (done ++ [r]) stack rest (by simpa using hnd)
      (hc.snoc (mem_defIds.2 ⟨r, by simp, he, rfl⟩))
    have hfin : done ++ [r] ++ rest' = done ++ r :: rest' := by simp
    refine ⟨?_, hfin ▸ h2⟩
    rw [List.cons_append, viewGo_stmt (dupOk_fresh (fresh_of_nodup he hnd hc)) hm, h1, hfin]
  | @block p o s e inner rest' hs he hid hsp hep ha _ _ ih1 ih2 =>
    intro done stack rest hnd hc
    have hse := isStart_not_isEnd hs
    have hfresh := fresh_of_nodup (more := inner ++ e :: (rest' ++ rest)) hse (by simpa using hnd) hc
    have hfin : done ++ [s] ++ inner ++ [e] ++ rest' = done ++ s :: (inner ++ e :: rest') := by simp
    obtain ⟨h1, hc1⟩ := ih1 (done ++ [s]) (s.id :: stack) (e :: (rest' ++ rest)) (by simpa using hnd)
      (hc.snoc (mem_defIds.2 ⟨s, by simp, hse, rfl⟩))
    have hdupe : dupOk (done ++ [s] ++ inner) e = true := by
      have hfirst : firstWith (done ++ [s] ++ inner) e.id = some s := by
        rw [List.append_assoc, firstWith_append_of_none (hid ▸ firstWith_none hfresh)]
        simp [firstWith, hid]
      rw [dupOk, hfirst]; simp [hs, he]
    obtain ⟨h2, hc2⟩ := ih2 (done ++ [s] ++ inner ++ [e]) stack rest (by simpa using hnd)
      (hc1.snoc (mem_defIds.2 ⟨s, by simp, hse, hid.symm⟩))
    refine ⟨?_, hfin ▸ hc2⟩
    rw [List.cons_append, viewGo_start (dupOk_fresh hfresh) hs, List.append_assoc, List.cons_append, h1, ← hid,
      viewGo_end hdupe he, h2, hfin]

theorem viewer_ok {rows : Rows} (h : Shape 0 none rows) (hnd : (defIds rows).Nodup) : viewer rows = .ok () := by
  have := (viewGo_shape h [] [] [] (by simpa using hnd) nofun).1
  simp only [List.append_nil, List.nil_append] at this
  rw [viewer, this]
  simp [viewGo]

def startIds (rows : Rows) : List Nat := (rows.filter (·.isStart)).map (·.id)
def endIds (rows : Rows) : List Nat := (rows.filter (·.isEnd)).map (·.id)

theorem shape_ends_perm {p : Nat} {last : Option Row} {rows : Rows} (h : Shape p last rows) :
    (endIds rows).Perm (startIds rows) := by
  induction h with
  | nil => exact List.Perm.refl _
  | stmt hm _ _ ih =>
    obtain ⟨hs, he⟩ := isMarker_false_iff.1 hm
    simpa [endIds, startIds, List.filter_cons, hs, he] using ih
  | @block p o s e inner rest hs he hid _ _ _ _ _ ih1 ih2 =>
    have hse := isStart_not_isEnd hs
    have hes := isEnd_not_isStart he
    simp only [endIds, startIds, List.filter_cons, List.filter_append, hs, hse, he, hes, List.map_cons,
      List.map_append, if_true, Bool.false_eq_true, if_false] at ih1 ih2 ⊢
    rw [hid]
    exact (List.perm_middle).trans ((ih1.append ih2).cons _)

theorem startIds_sublist (rows : Rows) : (startIds rows).Sublist (defIds rows) := by
  have : rows.filter (·.isStart) = (rows.filter fun r => !r.isEnd).filter (·.isStart) := by
    rw [List.filter_filter]
    exact List.filter_congr fun r _ => by cases h : r.isStart <;> simp [isStart_not_isEnd, h]
  rw [startIds, this]
  exact List.filter_sublist.map _

/-- a row with id `b` either introduces `b` or is a `block_end` -/
theorem count_filter_id (rows : Rows) (b : Nat) :
    (rows.filter (fun r => r.id == b)).length = (defIds rows).count b + (endIds rows).count b := by
  simp only [defIds, endIds, List.count_eq_countP, List.countP_map, List.countP_filter,
    ← List.countP_eq_length_filter]
  rw [List.countP_eq_countP_filter_add _ _ (·.isEnd), List.countP_filter, List.countP_filter, Nat.add_comm]
  congr 1 <;> exact List.countP_congr fun r _ => by simp [Bool.and_comm]

theorem readBlock_ok {rows : Rows} (h : Shape 0 none rows) (hnd : (defIds rows).Nodup) :
    ∀ s ∈ rows, s.isStart = true → readBlock rows s.id = true := by
  intro s hs hst
  have hmem1 : s.id ∈ defIds rows := mem_defIds.2 ⟨s, hs, isStart_not_isEnd hst, rfl⟩
  have hmem2 : s.id ∈ startIds rows := by
    simp only [startIds, List.mem_map, List.mem_filter]
    exact ⟨s, ⟨hs, hst⟩, rfl⟩
  have hnd2 : (startIds rows).Nodup := hnd.sublist (startIds_sublist rows)
  have c1 : (defIds rows).count s.id = 1 := by rw [hnd.count, if_pos hmem1]
  have c2 : (endIds rows).count s.id = 1 := by
    rw [(shape_ends_perm h).count_eq, hnd2.count, if_pos hmem2]
  simp only [readBlock, count_filter_id, c1, c2]
  rfl

end LianVerif.Gir
