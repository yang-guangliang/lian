/-
C05, resolver side.  `resolve_symbol_source_decl` takes the maximum of an intersection; on a path to
the root along which ids decrease that is the first scope of the path that declares the name.  The
resolver compares names for equality only, and reads the declaration table for a name only through
the declarations of that name.
-/
import LianVerif.Model.Resolver
import LianVerif.Spec.Lexical
import LianVerif.Proofs.Scope
import LianVerif.Proofs.ListAux

namespace LianVerif.Resolver
open LianVerif.Scopes LianVerif.Lexical

variable {ν : Type} [DecidableEq ν]

theorem ne_neg_one_of_nonneg {i : Int} (h : 0 ≤ i) : i ≠ -1 :=
  Int.ne_of_gt (Int.lt_of_lt_of_le (by decide) h)

theorem maxInt_eq_none {l : List Int} : maxInt l = none ↔ l = [] := by
  cases l with
  | nil => simp [maxInt]
  | cons x xs =>
    simp only [maxInt]
    cases maxInt xs <;> simp

theorem maxInt_some {l : List Int} {m : Int} (h : maxInt l = some m) :
    m ∈ l ∧ ∀ x ∈ l, x ≤ m := by
  induction l generalizing m with
  | nil => simp [maxInt] at h
  | cons x xs ih =>
    simp only [maxInt] at h
    cases hx : maxInt xs with
    | none =>
      rw [hx, Option.some.injEq] at h
      rw [maxInt_eq_none.1 hx, ← h]
      simp
    | some m' =>
      rw [hx, Option.some.injEq] at h
      obtain ⟨hm', hle⟩ := ih hx
      simp only [List.mem_cons, forall_eq_or_imp]
      split at h <;> subst h
      · exact ⟨Or.inl rfl, Int.le_refl _, fun y hy => Int.le_trans (hle y hy) (Int.le_of_lt ‹m' < x›)⟩
      · exact ⟨Or.inr hm', Int.not_lt.1 ‹¬ m' < x›, hle⟩

theorem maxInt_eq_some {l : List Int} {m : Int} (hm : m ∈ l) (hle : ∀ x ∈ l, x ≤ m) : maxInt l = some m := by
  cases h : maxInt l with
  | none => rw [maxInt_eq_none.1 h] at hm; simp at hm
  | some m' =>
    obtain ⟨h1, h2⟩ := maxInt_some h
    rw [Int.le_antisymm (hle m' h1) (h2 m hm)]

theorem find_decreasing_some {c : List Int} {p : Int → Bool} {s : Int}
    (hdesc : c.Pairwise (fun a b => a > b)) (h : c.find? p = some s) :
    s ∈ c ∧ p s = true ∧ ∀ x ∈ c, p x = true → x ≤ s := by
  obtain ⟨hps, as, bs, rfl, has⟩ := List.find?_eq_some_iff_append.1 h
  refine ⟨by simp, hps, fun x hx hpx => ?_⟩
  rcases List.mem_append.1 hx with hx | hx
  · have := has x hx; simp [hpx] at this
  · rcases List.mem_cons.1 hx with rfl | hx
    · exact Int.le_refl _
    · exact Int.le_of_lt ((List.pairwise_cons.1 (List.pairwise_append.1 hdesc).2.1).1 x hx)

theorem maxInt_eq_find {c T : List Int} {p : Int → Bool}
    (hdesc : c.Pairwise (fun a b => a > b))
    (hT : ∀ x, x ∈ T ↔ (x ∈ c ∧ p x = true)) :
    maxInt T = c.find? p := by
  cases hf : c.find? p with
  | none =>
    rw [maxInt_eq_none, List.eq_nil_iff_forall_not_mem]
    intro t ht
    obtain ⟨htc, hpt⟩ := (hT t).1 ht
    exact List.find?_eq_none.1 hf t htc hpt
  | some s =>
    obtain ⟨hs, hps, hmax⟩ := find_decreasing_some hdesc hf
    exact maxInt_eq_some ((hT s).2 ⟨hs, hps⟩) (fun x hx => hmax x ((hT x).1 hx).1 ((hT x).1 hx).2)

theorem mem_targets {S : Summary ν} {cur : Int} {n : ν} {x : Int} :
    x ∈ targets S cur n ↔
      (x ∈ S.implicit ∨ (0 ≤ cur ∧ x ∈ (S.avail.get cur.toNat).getD [])) ∧
      (declScopes S.decls n).contains x = true := by
  unfold targets
  by_cases hc : 0 ≤ cur <;> simp [hc, or_and_right]

theorem symbolInfo_some {ds : List (Decl ν)} {sc : Int} {n : ν} {d : Decl ν}
    (h : symbolInfo ds sc n = some d) : d ∈ ds ∧ d.scope = sc ∧ d.name = n := by
  have hm := List.mem_filter.1 (List.mem_of_getLast? h)
  simpa using hm

theorem contains_declScopes {ds : List (Decl ν)} {n : ν} {x : Int} :
    (declScopes ds n).contains x = true ↔ ∃ d ∈ ds, d.name = n ∧ d.scope = x := by
  simp only [declScopes, List.contains_iff_mem, List.mem_map, List.mem_filter, beq_iff_eq, and_assoc]

theorem symbolInfo_isSome {ds : List (Decl ν)} {sc : Int} {n : ν}
    (h : (declScopes ds n).contains sc = true) : ∃ d, symbolInfo ds sc n = some d := by
  obtain ⟨d, hd, hn, hsc⟩ := contains_declScopes.1 h
  have hmem : d ∈ ds.filter (fun d => d.scope == sc && d.name == n) :=
    List.mem_filter.2 ⟨hd, by simp [hsc, hn]⟩
  exact Option.isSome_iff_exists.1 (List.getLast?_isSome.2 (List.ne_nil_of_mem hmem))

/-- **C05 (language-independent core), table form.**  The set-intersection + maximum computation of
`resolve_symbol_source_decl` returns what lexical scoping prescribes.  `hdesc` follows from `IdOrder`
(`chain_desc`); `himp`: no implicit root block outside the path declares `n`. -/
theorem resolveDecl_eq_lexDecl (recs : List ScopeRec) (S : Summary ν) (cur : Int) (n : ν)
    (hcur : 0 ≤ cur) (hv : S.avail.Holds cur.toNat (chain recs cur))
    (hdesc : (chain recs cur).Pairwise (fun a b => a > b))
    (himp : ∀ b ∈ S.implicit, (declScopes S.decls n).contains b = true → b ∈ chain recs cur) :
    resolveDecl S cur n = lexDecl recs S.decls cur n := by
  obtain ⟨v, hv⟩ := hv
  have hne : (cur == -1) = false := beq_eq_false_iff_ne.2 (ne_neg_one_of_nonneg hcur)
  unfold resolveDecl lexDecl
  simp only [hne, Bool.false_eq_true, if_false]
  have hT : ∀ x, x ∈ targets S cur n ↔
      (x ∈ chain recs cur ∧ (fun s => (declScopes S.decls n).contains s) x = true) := by
    intro x
    rw [mem_targets, hv.1, Option.getD_some]
    exact ⟨fun ⟨h, hp⟩ => ⟨h.elim (fun h => himp x h hp) fun h => (hv.2 x).1 h.2, hp⟩,
      fun ⟨h, hp⟩ => ⟨Or.inr ⟨hcur, (hv.2 x).2 h⟩, hp⟩⟩
  rw [maxInt_eq_find hdesc hT]
  cases List.find? (fun s => (declScopes S.decls n).contains s) (chain recs cur) <;> rfl

theorem resolveDecl_eq_some_iff {S : Summary ν} {cur : Int} {n : ν} {d : Decl ν} :
    resolveDecl S cur n = some d ↔
      cur ≠ -1 ∧ d.scope ∈ targets S cur n ∧ (∀ x ∈ targets S cur n, x ≤ d.scope) ∧
        symbolInfo S.decls d.scope n = some d := by
  unfold resolveDecl
  by_cases hcur : cur = -1
  · simp [hcur]
  · rw [if_neg (by simpa using hcur)]
    cases hm : maxInt (targets S cur n) with
    | none => rw [maxInt_eq_none.1 hm]; simp
    | some m =>
      refine ⟨fun h => ?_, fun ⟨_, h3, h4, h5⟩ => ?_⟩
      · obtain ⟨_, rfl, _⟩ := symbolInfo_some h
        exact ⟨hcur, (maxInt_some hm).1, (maxInt_some hm).2, h⟩
      · rw [maxInt_eq_some h3 h4] at hm
        cases hm
        exact h5

/-- this half of C05 needs no ordering hypothesis on the tables. -/
theorem resolveDecl_visible {S : Summary ν} {cur : Int} {n : ν} {d : Decl ν}
    (h : resolveDecl S cur n = some d) :
    d ∈ S.decls ∧ d.name = n ∧
      (d.scope ∈ S.implicit ∨ (0 ≤ cur ∧ d.scope ∈ (S.avail.get cur.toNat).getD [])) := by
  obtain ⟨_, ht, _, hs⟩ := resolveDecl_eq_some_iff.1 h
  obtain ⟨hd, _, hn⟩ := symbolInfo_some hs
  exact ⟨hd, hn, (mem_targets.1 ht).1⟩

theorem resolveDecl_eq_none_iff {S : Summary ν} {cur : Int} {n : ν} (hcur : cur ≠ -1) :
    resolveDecl S cur n = none ↔
      ∀ x, (x ∈ S.implicit ∨ (0 ≤ cur ∧ x ∈ (S.avail.get cur.toNat).getD [])) →
        (declScopes S.decls n).contains x = false := by
  have hne : (cur == -1) = false := by rw [beq_eq_false_iff_ne]; exact hcur
  unfold resolveDecl
  simp only [hne, Bool.false_eq_true, if_false]
  cases hm : maxInt (targets S cur n) with
  | none =>
    refine ⟨fun _ x hx => Bool.eq_false_iff.2 fun hp => ?_, fun _ => rfl⟩
    have := mem_targets.2 ⟨hx, hp⟩
    rw [maxInt_eq_none.1 hm] at this
    cases this
  | some m =>
    obtain ⟨hvis, hp⟩ := mem_targets.1 (maxInt_some hm).1
    obtain ⟨d, hd⟩ := symbolInfo_isSome hp
    exact ⟨fun h => by simp [hd] at h, fun h => by rw [h m hvis] at hp; cases hp⟩

theorem bind_use (S : Summary ν) (ss : Nat → Int) (stmt : Nat) (n : ν) :
    bind S ss stmt n .use = (resolveDecl S (ss stmt) n).filter (fun d => !(d.stmt == stmt)) := by
  unfold bind
  cases resolveDecl S (ss stmt) n with
  | none => rfl
  | some d => cases h : d.stmt == stmt <;> simp [Option.filter, h]

theorem getLast?_filter_of_last {α : Type} {l : List α} {p : α → Bool} {r : α}
    (h : l.getLast? = some r) (hp : p r = true) : (l.filter p).getLast? = some r := by
  obtain ⟨l', rfl⟩ := List.getLast?_eq_some_iff.1 h
  rw [List.filter_append]
  simp [hp]

theorem getLast?_const {α : Type} {l : List α} {c : α} (hall : ∀ x ∈ l, x = c) (hc : c ∈ l) :
    l.getLast? = some c := by
  cases h : l.getLast? with
  | none => rw [List.getLast?_eq_none_iff] at h; rw [h] at hc; simp at hc
  | some x => rw [hall x (List.mem_of_getLast? h)]

theorem symbolInfo_eq_named (ds : List (Decl ν)) (sc : Int) (n : ν) :
    symbolInfo ds sc n = ((ds.filter (fun d => d.name == n)).filter (fun d => d.scope == sc)).getLast? := by
  rw [List.filter_filter]; rfl

theorem resolveDecl_congr {S S' : Summary ν} (cur : Int) {n : ν}
    (hd : S'.decls.filter (fun d => d.name == n) = S.decls.filter (fun d => d.name == n))
    (ha : S'.avail = S.avail) (hi : S'.implicit = S.implicit) :
    resolveDecl S' cur n = resolveDecl S cur n := by
  unfold resolveDecl targets declScopes
  simp only [symbolInfo_eq_named, hd, ha, hi]

/-- used for the occurrences bound to a renamed declaration: after the renaming it is the only
declaration of the fresh name. -/
theorem resolveDecl_of_unique {S : Summary ν} {cur : Int} {n : ν} {d : Decl ν} (hcur : cur ≠ -1)
    (hmem : d ∈ S.decls) (hname : d.name = n) (huniq : ∀ x ∈ S.decls, x.name = n → x = d)
    (hvis : d.scope ∈ S.implicit ∨ (0 ≤ cur ∧ d.scope ∈ (S.avail.get cur.toNat).getD [])) :
    resolveDecl S cur n = some d := by
  have hD : ∀ x, (declScopes S.decls n).contains x = true ↔ x = d.scope := fun x =>
    contains_declScopes.trans ⟨fun ⟨y, hy, hn, hx⟩ => by rw [← hx, huniq y hy hn],
      fun hx => ⟨d, hmem, hname, hx.symm⟩⟩
  refine resolveDecl_eq_some_iff.2 ⟨hcur, mem_targets.2 ⟨hvis, (hD _).2 rfl⟩,
    fun x hx => Int.le_of_eq ((hD x).1 (mem_targets.1 hx).2), ?_⟩
  refine getLast?_const (fun y hy => ?_) (List.mem_filter.2 ⟨hmem, by simp [hname]⟩)
  rw [List.mem_filter, Bool.and_eq_true, beq_iff_eq, beq_iff_eq] at hy
  exact huniq y hy.1 hy.2.2

/-- The declaring scopes only get fewer and the scope of the answer stays among them, so the maximum
is the same.  Used to take a renamed declaration out of the table of its old name. -/
theorem resolveDecl_filter (S : Summary ν) (cur : Int) (n : ν) (p : Decl ν → Bool)
    (h : ∀ d, resolveDecl S cur n = some d → p d = true) :
    resolveDecl { S with decls := S.decls.filter p } cur n = resolveDecl S cur n := by
  have hc : ∀ x, (declScopes (S.decls.filter p) n).contains x = true → (declScopes S.decls n).contains x = true :=
    fun x hx => by
      obtain ⟨e, he, hen⟩ := contains_declScopes.1 hx
      exact contains_declScopes.2 ⟨e, (List.mem_filter.1 he).1, hen⟩
  cases hr : resolveDecl S cur n with
  | none =>
    by_cases hcur : cur = -1
    · subst hcur; rfl
    · refine (resolveDecl_eq_none_iff hcur).2 fun x hx => Bool.eq_false_iff.2 fun hp => ?_
      have := (resolveDecl_eq_none_iff hcur).1 hr x hx
      rw [hc x hp] at this
      cases this
  | some d =>
    obtain ⟨hcur, ht, hmax, hs⟩ := resolveDecl_eq_some_iff.1 hr
    obtain ⟨hd, hsc, hn⟩ := symbolInfo_some hs
    have hp := h d hr
    refine resolveDecl_eq_some_iff.2 ⟨hcur, mem_targets.2 ⟨(mem_targets.1 ht).1,
      contains_declScopes.2 ⟨d, List.mem_filter.2 ⟨hd, hp⟩, hn, rfl⟩⟩,
      fun x hx => hmax x (mem_targets.2 ((mem_targets.1 hx).imp_right (hc x))), ?_⟩
    unfold symbolInfo at hs ⊢
    rw [List.filter_filter, show (fun a : Decl ν => (a.scope == d.scope && a.name == n) && p a) =
      fun a => p a && (a.scope == d.scope && a.name == n) from funext fun a => Bool.and_comm _ _, ← List.filter_filter]
    exact getLast?_filter_of_last hs hp

/- `Row.shape` forgets the identifiers, so a renaming leaves the scope tables alone; the declaration
table is mapped. -/
section Equivariance
variable {μ : Type} [DecidableEq μ]

omit [DecidableEq ν] [DecidableEq μ] in
theorem shapes_map (σ : ν → μ) (rows : List (Row ν)) :
    (rows.map (Row.map σ)).map Row.shape = rows.map Row.shape := by
  rw [List.map_map]
  exact List.map_congr_left fun r _ => by simp [Row.map, Row.shape]

omit [DecidableEq ν] [DecidableEq μ] in
theorem declName_map (σ : ν → μ) (lastSeg : ν → Option ν) (lastSeg' : μ → Option μ) (k : SKind) (r : Row ν)
    (hseg : ∀ a, r.name = some a → lastSeg' (σ a) = (lastSeg a).map σ) :
    declName lastSeg' k (Row.map σ r) = (declName lastSeg k r).map σ := by
  unfold declName Row.map
  split
  · cases r.alias with
    | some a => rfl
    | none =>
      cases hn : r.name with
      | none => rfl
      | some a => exact hseg a hn
  · rfl

omit [DecidableEq ν] [DecidableEq μ] in
/-- the segment function is only applied to the names of the rows (of import rows without alias). -/
theorem decls_map (σ : ν → μ) (lastSeg : ν → Option ν) (lastSeg' : μ → Option μ) (rows : List (Row ν))
    (hseg : ∀ r ∈ rows, ∀ a, r.name = some a → lastSeg' (σ a) = (lastSeg a).map σ) (recs : List ScopeRec) :
    decls lastSeg' (rows.map (Row.map σ)) recs = (decls lastSeg rows recs).map (Decl.map σ) := by
  unfold decls
  rw [List.map_filterMap]
  congr 1
  funext rec
  split
  · have hid : ((fun r : Row μ => r.id == rec.stmt) ∘ Row.map σ) = fun r : Row ν => r.id == rec.stmt := rfl
    rw [List.find?_map, hid]
    cases hf : rows.find? (fun r => r.id == rec.stmt) with
    | none => rfl
    | some r =>
      simp only [Option.map_some, declName_map σ lastSeg lastSeg' _ r (hseg r (List.mem_of_find?_eq_some hf))]
      cases declName lastSeg rec.kind r <;> rfl
  · rfl

theorem declScopes_map (σ : ν → μ) (hinj : Function.Injective σ) (ds : List (Decl ν)) (n : ν) :
    declScopes (ds.map (Decl.map σ)) (σ n) = declScopes ds n := by
  unfold declScopes
  rw [List.filter_map, List.map_map]
  simp only [Function.comp_def, Decl.map, beq_inj σ hinj]

theorem symbolInfo_map (σ : ν → μ) (hinj : Function.Injective σ) (ds : List (Decl ν)) (sc : Int) (n : ν) :
    symbolInfo (ds.map (Decl.map σ)) sc (σ n) = (symbolInfo ds sc n).map (Decl.map σ) := by
  unfold symbolInfo
  rw [List.filter_map, List.getLast?_map]
  simp only [Function.comp_def, Decl.map, beq_inj σ hinj]

def Summary.map (σ : ν → μ) (S : Summary ν) : Summary μ :=
  { decls := S.decls.map (Decl.map σ), avail := S.avail, implicit := S.implicit }

omit [DecidableEq ν] [DecidableEq μ] in
theorem summaryOf_map (σ : ν → μ) (ds : List (Decl ν)) (recs : List ScopeRec) :
    summaryOf (ds.map (Decl.map σ)) recs = (summaryOf ds recs).map σ := rfl

theorem resolveDecl_map (σ : ν → μ) (hinj : Function.Injective σ) (S : Summary ν) (cur : Int) (n : ν) :
    resolveDecl (S.map σ) cur (σ n) = (resolveDecl S cur n).map (Decl.map σ) := by
  unfold resolveDecl targets Summary.map
  simp only [declScopes_map σ hinj, symbolInfo_map σ hinj]
  split
  · rfl
  · cases maxInt _ <;> rfl

theorem resolveGlobal_map (σ : ν → μ) (hinj : Function.Injective σ) (S : Summary ν) (n : ν) :
    resolveGlobal (S.map σ) (σ n) = (resolveGlobal S n).map (Decl.map σ) := by
  unfold resolveGlobal Summary.map
  simp only [declScopes_map σ hinj, symbolInfo_map σ hinj]
  split <;> rfl

theorem bind_map (σ : ν → μ) (hinj : Function.Injective σ) (S : Summary ν) (ss : Nat → Int)
    (stmt : Nat) (n : ν) (mode : Mode) :
    bind (S.map σ) ss stmt (σ n) mode = (bind S ss stmt n mode).map (Decl.map σ) := by
  cases mode with
  | global => exact resolveGlobal_map σ hinj S n
  | use => rw [bind_use, bind_use, resolveDecl_map σ hinj, Option.filter_map]; rfl

theorem bindRows_map (σ : ν → μ) (hinj : Function.Injective σ) (lastSeg : ν → Option ν) (lastSeg' : μ → Option μ)
    (t : OpTable) (rows : List (Row ν))
    (hseg : ∀ r ∈ rows, ∀ a, r.name = some a → lastSeg' (σ a) = (lastSeg a).map σ)
    (stmt : Nat) (n : ν) (mode : Mode) :
    bindRows lastSeg' t (rows.map (Row.map σ)) stmt (σ n) mode =
      (bindRows lastSeg t rows stmt n mode).map (Decl.map σ) := by
  simp only [bindRows, shapes_map, decls_map σ lastSeg lastSeg' rows hseg, summaryOf_map, bind_map σ hinj]

end Equivariance

omit [DecidableEq ν] in
theorem renameDecl_cons (d : Decl ν) (ds : List (Decl ν)) (d0 : Nat) (n' : ν) :
    renameDecl (d :: ds) d0 n' = (if d.stmt == d0 then { d with name := n' } else d) :: renameDecl ds d0 n' := rfl

theorem filter_name_rename_old (ds : List (Decl ν)) (d0 : Nat) {n n' : ν} (hne : n ≠ n') :
    (renameDecl ds d0 n').filter (fun d => d.name == n) =
      (ds.filter (fun d => !(d.stmt == d0))).filter (fun d => d.name == n) := by
  have hn : (n' == n) = false := beq_eq_false_iff_ne.2 (Ne.symm hne)
  induction ds with
  | nil => rfl
  | cons d ds ih =>
    rw [renameDecl_cons, List.filter_cons, ih, List.filter_cons]
    by_cases hd : d.stmt = d0 <;> by_cases h2 : (d.name == n) = true <;> simp [hd, h2, hn]

theorem filter_name_rename_other (ds : List (Decl ν)) (d0 : Nat) {n n' m : ν}
    (hold : ∀ d ∈ ds, d.stmt = d0 → d.name = n) (hmn : m ≠ n) (hmn' : m ≠ n') :
    (renameDecl ds d0 n').filter (fun d => d.name == m) = ds.filter (fun d => d.name == m) := by
  have h1 : (n' == m) = false := beq_eq_false_iff_ne.2 (Ne.symm hmn')
  have h2 : (n == m) = false := beq_eq_false_iff_ne.2 (Ne.symm hmn)
  induction ds with
  | nil => rfl
  | cons d ds ih =>
    rw [renameDecl_cons, List.filter_cons, ih fun x hx => hold x (List.mem_cons_of_mem _ hx), List.filter_cons]
    by_cases hd : d.stmt = d0
    · simp [hd, h1, hold d List.mem_cons_self hd, h2]
    · simp [hd]

end LianVerif.Resolver
