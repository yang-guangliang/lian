/-
C12 (renumbering, CFG): the CFG model never looks at an identifier and uses statement ids
only as opaque labels (`analyze`) or compares them for equality (`_add_one_edge`): it commutes with
every injective renumbering of the statement ids.
-/
import LianVerif.Model.Meta
import LianVerif.Proofs.MetaResolver
import LianVerif.Proofs.MetaCfgSimp
import LianVerif.Proofs.ListAux

namespace LianVerif.Meta
open LianVerif.Cfg

variable (ρ : Nat → Nat)

def mapFr (f : Fr) : Fr := ⟨ρ f.id, f.kind⟩
def mapSp (s : Sp) : Sp := ⟨ρ s.id, s.isBrk⟩
def mapEm (r : Em) : Em :=
  ⟨r.F.map (mapFr ρ), r.sp.map (mapSp ρ), r.es.map (mapEdge ρ), r.err⟩

theorem link_map (F : List Fr) (d : Int) :
    link (F.map (mapFr ρ)) (mapInt ρ d) = (link F d).map (mapEdge ρ) := by
  unfold link
  rw [List.map_map, List.map_map]
  rfl

@[cfg_renum] theorem link_map_nat (F : List Fr) (d : Nat) :
    link (F.map (mapFr ρ)) ((ρ d : Nat) : Int) = (link F (d : Int)).map (mapEdge ρ) := by
  rw [← mapInt_cast, link_map]

theorem link_map_exit (F : List Fr) :
    link (F.map (mapFr ρ)) (-1) = (link F (-1)).map (mapEdge ρ) := by
  have := link_map ρ F (-1)
  rwa [mapInt_neg_one] at this

@[cfg_renum] theorem wrap_map (k : Nat) (F : List Fr) :
    (F.map (mapFr ρ)).map (Fr.wrap k) = (F.map (Fr.wrap k)).map (mapFr ρ) := by
  rw [List.map_map, List.map_map]; rfl

@[cfg_renum] theorem conts_map (sp : List Sp) : conts (sp.map (mapSp ρ)) = (conts sp).map (mapFr ρ) := by
  unfold conts
  rw [List.filter_map, List.map_map, List.map_map]
  rfl

@[cfg_renum] theorem nonConts_map (sp : List Sp) : nonConts (sp.map (mapSp ρ)) = (nonConts sp).map (mapSp ρ) := by
  unfold nonConts
  rw [List.filter_map]
  rfl

@[cfg_renum] theorem filter_notBrk_map (sp : List Sp) :
    (sp.map (mapSp ρ)).filter (fun s => !s.isBrk) = (sp.filter (fun s => !s.isBrk)).map (mapSp ρ) := by
  rw [List.filter_map]; rfl

@[cfg_renum] theorem plain_map (sp : List Sp) : plain (sp.map (mapSp ρ)) = (plain sp).map (mapFr ρ) := by
  unfold plain
  rw [List.map_map, List.map_map]; rfl

@[cfg_renum] theorem isNil_mapS (s : S) : (mapS ρ s).isNil = s.isNil := by
  cases s <;> rfl

@[cfg_renum] theorem dealLoop_map (id : Nat) (ct : Bool) (F : List Fr) (lsp : List Sp) :
    dealLoop (ρ id) ct (F.map (mapFr ρ)) (lsp.map (mapSp ρ)) =
      ((dealLoop id ct F lsp).1.map (mapFr ρ), (dealLoop id ct F lsp).2.map (mapEdge ρ)) := by
  unfold dealLoop
  simp only [← List.map_reverse, List.filter_map, plain_map, wrap_map, link_map_nat, conts_map,
    List.map_append]
  cases ct
  · simp only [List.map_append, List.map_cons, List.map_nil, Bool.false_eq_true, if_false]
    rfl
  · simp only [if_true]
    rfl

@[cfg_renum] theorem popLast_map (q : Q) (res : List Fr) :
    popLast q (res.map (mapFr ρ)) = ((popLast q res).1.map (mapFr ρ), (popLast q res).2) := by
  unfold popLast
  cases q.popGuard
  · simp only [Bool.false_eq_true, if_false]
    cases res with
    | nil => rfl
    | cons a as =>
      show ((List.map (mapFr ρ) (a :: as)).dropLast, 0) = _
      rw [← List.map_dropLast]
  · simp only [if_true, List.getLast?_map]
    cases res.getLast? with
    | none => rfl
    | some f =>
      simp only [Option.map_some]
      have : (mapFr ρ f).kind = f.kind := rfl
      rw [this]
      split
      · simp only [← List.map_dropLast]
      · rfl

@[cfg_renum] theorem stops_map (q : Q) (nb : Bool) (F : List Fr) :
    stops q nb (F.map (mapFr ρ)) = stops q nb F := by
  unfold stops; simp only [List.isEmpty_map]

theorem andThen_map {r : Em} {f f' : List Fr → Em}
    (hf : ∀ F, f' (F.map (mapFr ρ)) = mapEm ρ (f F)) :
    (mapEm ρ r).andThen f' = mapEm ρ (r.andThen f) := by
  unfold Em.andThen
  simp only [mapEm, hf, List.map_append]

theorem cont_map {r : Em} {stop : Bool} {f f' : List Fr → Em}
    (hf : ∀ F, f' (F.map (mapFr ρ)) = mapEm ρ (f F)) :
    (mapEm ρ r).cont stop f' = mapEm ρ (r.cont stop f) := by
  unfold Em.cont
  cases stop
  · simp only [Bool.false_eq_true, if_false]; exact andThen_map ρ hf
  · rfl

theorem withPre_map {q : Q} {pre : S} {rb : Em} {rec rec' : List Fr → Em}
    (hf : ∀ F, rec' (F.map (mapFr ρ)) = mapEm ρ (rec F)) :
    withPre q (mapS ρ pre) (mapEm ρ rb) rec' = mapEm ρ (withPre q pre rb rec) := by
  unfold withPre
  rw [isNil_mapS]
  split
  · simp only [mapEm, conts_map, nonConts_map, ← List.map_append, List.isEmpty_map]
    split
    · rfl
    · rw [hf]; simp only [mapEm, List.map_append]
  · rfl

@[cfg_renum] theorem forTail_map (Fb : List Fr) (lsp : List Sp) (ru rq : Em) :
    forTail (Fb.map (mapFr ρ)) (lsp.map (mapSp ρ)) (mapEm ρ ru) (mapEm ρ rq) = mapEm ρ (forTail Fb lsp ru rq) := by
  unfold forTail
  simp only [List.isEmpty_map]
  split
  · rfl
  · simp only [mapEm, List.map_append]

@[cfg_renum] theorem hasDflt_map (s : S) : analyze.hasDflt (mapS ρ s) = analyze.hasDflt s := by
  induction s with
  | caseS id dflt body rest _ ih => unfold mapS analyze.hasDflt; rw [ih]
  | _ => rfl


@[cfg_renum] theorem mapEm_F (r : Em) : (mapEm ρ r).F = r.F.map (mapFr ρ) := rfl
@[cfg_renum] theorem mapEm_sp (r : Em) : (mapEm ρ r).sp = r.sp.map (mapSp ρ) := rfl
@[cfg_renum] theorem mapEm_es (r : Em) : (mapEm ρ r).es = r.es.map (mapEdge ρ) := rfl
@[cfg_renum] theorem mapEm_err (r : Em) : (mapEm ρ r).err = r.err := rfl

@[cfg_renum] theorem mapEm_mk (F : List Fr) (sp : List Sp) (es : List Edge) (err : Nat) :
    (⟨F.map (mapFr ρ), sp.map (mapSp ρ), es.map (mapEdge ρ), err⟩ : Em) = mapEm ρ ⟨F, sp, es, err⟩ := rfl
@[cfg_renum] theorem mapEm_mk_sp (F : List Fr) (es : List Edge) (err : Nat) :
    (⟨F.map (mapFr ρ), [], es.map (mapEdge ρ), err⟩ : Em) = mapEm ρ ⟨F, [], es, err⟩ := rfl
@[cfg_renum] theorem mapEm_mk_F (F : List Fr) (err : Nat) :
    (⟨F.map (mapFr ρ), [], [], err⟩ : Em) = mapEm ρ ⟨F, [], [], err⟩ := rfl

@[cfg_renum] theorem ite_map {α β : Type} (f : α → β) (c : Prop) [Decidable c] (a b : List α) :
    (if c then a.map f else b.map f) = (if c then a else b).map f := by
  split <;> rfl
@[cfg_renum] theorem ite_map_nil {α β : Type} (f : α → β) (c : Prop) [Decidable c] (a : List α) :
    (if c then a.map f else []) = (if c then a else []).map f := by
  split <;> rfl
@[cfg_renum] theorem ite_mapEm (c : Prop) [Decidable c] (a b : Em) :
    (if c then mapEm ρ a else mapEm ρ b) = mapEm ρ (if c then a else b) := by
  split <;> rfl

/-- `analyze` and its two clause loops are one recursion over the statement sequence, so their
commutation with the renumbering is one induction. -/
def AnalyzeMap (q : Q) (s : S) : Prop :=
  (∀ F, analyze q (mapS ρ s) (F.map (mapFr ρ)) = mapEm ρ (analyze q s F)) ∧
  (∀ Fb, analyze.catchLoop q (Fb.map (mapFr ρ)) (mapS ρ s) = mapEm ρ (analyze.catchLoop q Fb s)) ∧
  (∀ sid prev, analyze.caseLoop q (ρ sid) (mapS ρ s) (prev.map (mapFr ρ)) = mapEm ρ (analyze.caseLoop q sid s prev))

@[cfg_renum] theorem single_map (id : Nat) (k : Option Nat) :
    [(⟨ρ id, k⟩ : Fr)] = [(⟨id, k⟩ : Fr)].map (mapFr ρ) := rfl

-- from here on the set also unfolds the analysis of a head statement and collects appended lists
attribute [cfg_renum] mapS analyze analyze.catchLoop analyze.caseLoop
attribute [cfg_renum ←] List.map_append

/- Per constructor one `simp` pass: it unfolds the analysis of the head statement on both sides and,
on the left, moves the renumbering outwards through the results of the sub-blocks (the induction
hypotheses) and everything built from them, until the left side is `mapEm ρ _` again. -/
theorem analyze_map (q : Q) (s : S) : AnalyzeMap ρ q s := by
  induction s with
  | nil => exact ⟨fun _ => rfl, fun _ => rfl, fun _ _ => rfl⟩
  | simple id rest ih | decl id rest ih =>
    refine ⟨fun F => ?_, fun _ => rfl, fun _ _ => rfl⟩
    simp only [cfg_renum, andThen_map ρ ih.1]
  | brk id rest ih | cont id rest ih =>
    refine ⟨fun F => ?_, fun _ => rfl, fun _ _ => rfl⟩
    -- the three leaf results hold literal lists, which the `mapEm_mk*` lemmas cannot fold: here and
    -- for `ret` the right-hand `mapEm` is unfolded instead
    simp only [mapS, analyze, mapEm, link_map_nat, List.map_cons, List.map_nil, mapSp]
  | ret id rest ih =>
    refine ⟨fun F => ?_, fun _ => rfl, fun _ _ => rfl⟩
    simp only [mapS, analyze, mapEm, link_map_nat, List.map_cons, List.map_nil, List.map_append, mapEdge,
      mapInt_neg_one]
  | ifS id thn els rest ih1 ih2 ih3 =>
    refine ⟨fun F => ?_, fun _ => rfl, fun _ _ => rfl⟩
    simp only [cfg_renum, ih1.1, ih2.1, cont_map ρ ih3.1]
  | whileS id ct pre body els rest ihp ihb ihe ihr =>
    refine ⟨fun F => ?_, fun _ => rfl, fun _ _ => rfl⟩
    simp only [cfg_renum, ihp.1, ihb.1, ihe.1, withPre_map ρ ihp.1,
      cont_map ρ ihr.1, andThen_map ρ ihr.1]
  | doS id ct body pre rest ihb ihp ihr =>
    refine ⟨fun F => ?_, fun _ => rfl, fun _ _ => rfl⟩
    simp only [cfg_renum, ihb.1, withPre_map ρ ihp.1, cont_map ρ ihr.1]
  | forS id ct init pre upd body rest ihi ihp ihu ihb ihr =>
    refine ⟨fun F => ?_, fun _ => rfl, fun _ _ => rfl⟩
    simp only [cfg_renum, ihi.1, ihp.1, ihu.1, ihb.1, cont_map ρ ihr.1]
  | classS id flds sinit init methods nested rest ihs ihi ihm ihn ihr =>
    refine ⟨fun F => ?_, fun _ => rfl, fun _ _ => rfl⟩
    simp only [cfg_renum, andThen_map ρ ihs.1, andThen_map ρ ihi.1, andThen_map ρ ihm.1,
      andThen_map ρ ihn.1, cont_map ρ ihr.1]
  | tryS id body catches els fin rest ihb ihc ihe ihf ihr =>
    refine ⟨fun F => ?_, fun _ => rfl, fun _ _ => rfl⟩
    simp only [cfg_renum, ihb.1, ihc.2.1, ihe.1, ihf.1, cont_map ρ ihr.1]
  | clause id body rest ihb ihr =>
    refine ⟨fun _ => rfl, fun Fb => ?_, fun _ _ => rfl⟩
    simp only [cfg_renum, ihb.1, ihr.2.1]
  | switchS id ft cases rest ihc ihr =>
    refine ⟨fun F => ?_, fun _ => rfl, fun _ _ => rfl⟩
    have hc : analyze.caseLoop q (ρ id) (mapS ρ cases) [] = mapEm ρ (analyze.caseLoop q id cases []) :=
      ihc.2.2 id []
    simp only [cfg_renum, hc, cont_map ρ ihr.1]
  | caseS id dflt body rest ihb ihr =>
    refine ⟨fun _ => rfl, fun _ => rfl, fun sid prev => ?_⟩
    have he : ∀ es, (ρ sid, ((ρ id : Nat) : Int), kEMPTY) :: List.map (mapEdge ρ) es =
        List.map (mapEdge ρ) ((sid, (id : Int), kEMPTY) :: es) := fun es => by
      simp only [List.map_cons, mapEdge, mapInt_cast]
    simp only [cfg_renum, ihb.1, ihr.2.2, he]

theorem hasEdge_map {ρ : Nat → Nat} (hinj : Function.Injective ρ) (g : List Edge) (a : Nat) (b : Int) :
    hasEdge (g.map (mapEdge ρ)) (ρ a) (mapInt ρ b) = hasEdge g a b := by
  unfold hasEdge
  rw [List.any_map]
  simp only [Function.comp_def, mapEdge, beq_inj ρ hinj, beq_inj _ (mapInt_injective hinj)]

theorem addEdge_map {ρ : Nat → Nat} (hinj : Function.Injective ρ) (g : List Edge) (e : Edge) :
    addEdge (g.map (mapEdge ρ)) (mapEdge ρ e) = (addEdge g e).map (mapEdge ρ) := by
  have h1 : (((ρ e.1 : Nat) : Int) == mapInt ρ e.2.1) = ((e.1 : Int) == e.2.1) := by
    rw [← mapInt_cast, beq_inj _ (mapInt_injective hinj)]
  have h2 : ∀ n : Nat, ¬ (n : Int) < 0 := fun n => Int.not_lt.2 (Int.natCast_nonneg n)
  simp only [addEdge, mapEdge, h1, hasEdge_map hinj, if_neg (h2 _)]
  split
  · rfl
  · split
    · rfl
    · simp only [List.map_append, List.map_cons, List.map_nil, mapEdge]

theorem build_map {ρ : Nat → Nat} (hinj : Function.Injective ρ) (es : List Edge) :
    build (es.map (mapEdge ρ)) = (build es).map (mapEdge ρ) :=
  foldl_map_comm (mapEdge ρ) (List.map (mapEdge ρ)) (addEdge_map hinj) es []

theorem emitted_map (q : Q) (params body : S) :
    emitted q (mapS ρ params) (mapS ρ body) = mapEm ρ (emitted q params body) := by
  have h1 : analyze q (mapS ρ params) [] = mapEm ρ (analyze q params []) := (analyze_map ρ q params).1 []
  simp only [emitted, h1, cfg_renum, (analyze_map ρ q body).1, link_map_exit]

theorem cfg_map {ρ : Nat → Nat} (hinj : Function.Injective ρ) (q : Q) (params body : S) :
    cfg q (mapS ρ params) (mapS ρ body) = mapResult ρ (cfg q params body) := by
  simp only [cfg, emitted_map, mapEm_err, mapEm_es, build_map hinj]
  split <;> rfl

end LianVerif.Meta
