/-
The `GIRBlockViewer` constructor against a scan of the statement ids: consuming the list statement by
statement keeps the three maps in step with the scan of the prefix read so far (`Inv`), so the block
ranges it records are exactly the pairs of positions the scan finds.
-/
import LianVerif.Model.BlockView

namespace LianVerif.BlockView

def occFrom (s : Nat) : List Stmt → Int → List Nat
  | [], _ => []
  | st :: rest, id => if st.id = id then s :: occFrom (s + 1) rest id else occFrom (s + 1) rest id

def occ (l : List Stmt) (id : Int) : List Nat := occFrom 0 l id

theorem occFrom_append (l : List Stmt) (st : Stmt) (id : Int) :
    ∀ s, occFrom s (l ++ [st]) id = occFrom s l id ++ (if st.id = id then [s + l.length] else []) := by
  induction l with
  | nil => intro s; by_cases h : st.id = id <;> simp [occFrom, h]
  | cons x xs ih =>
    intro s
    have e : s + 1 + xs.length = s + (xs.length + 1) := Nat.succ_add_eq_add_succ s xs.length
    by_cases h : x.id = id
    · simp [occFrom, h, ih (s + 1), e]
    · simp [occFrom, h, ih (s + 1), e]

theorem occ_append (l : List Stmt) (st : Stmt) (id : Int) :
    occ (l ++ [st]) id = occ l id ++ (if st.id = id then [l.length] else []) := by
  have := occFrom_append l st id 0
  simpa [occ] using this

theorem occ_ne {pre : List Stmt} {st : Stmt} {id : Int} (h : st.id ≠ id) :
    occ (pre ++ [st]) id = occ pre id := by
  rw [occ_append]; simp [h]

theorem occ_eq (pre : List Stmt) (st : Stmt) : occ (pre ++ [st]) st.id = occ pre st.id ++ [pre.length] := by
  rw [occ_append]; simp

theorem lookupFirst_append_ne {l : List (Int × Nat × Kind)} {e : Int × Nat × Kind} {id : Int}
    (h : e.1 ≠ id) : lookupFirst (l ++ [e]) id = lookupFirst l id := by
  unfold lookupFirst
  rw [List.find?_append]
  cases hf : l.find? (fun x => decide (x.1 = id)) with
  | some x => simp
  | none => simp [List.find?, h]

theorem lookupFirst_append_fresh {l : List (Int × Nat × Kind)} {id : Int} (v : Nat × Kind)
    (h : lookupFirst l id = none) : lookupFirst (l ++ [(id, v)]) id = some v := by
  unfold lookupFirst at *
  rw [List.find?_append]
  cases hf : l.find? (fun x => decide (x.1 = id)) with
  | some x => simp [hf] at h
  | none => simp [List.find?]

theorem lookupRange_cons_ne {l : List (Int × Nat × Nat)} {e : Int × Nat × Nat} {id : Int}
    (h : e.1 ≠ id) : lookupRange (e :: l) id = lookupRange l id := by
  simp [lookupRange, List.find?, h]

theorem lookupRange_cons_eq (l : List (Int × Nat × Nat)) (id : Int) (v : Nat × Nat) :
    lookupRange ((id, v) :: l) id = some v := by
  simp [lookupRange, List.find?]

theorem get_append_some {pre : List Stmt} {st x : Stmt} {i : Nat} (h : pre[i]? = some x) :
    (pre ++ [st])[i]? = some x := by
  rw [List.getElem?_append_left (List.getElem?_eq_some_iff.1 h).1]; exact h

/-- `two` and `closed` are the converse of `range` (the scan finds nothing that is not recorded), needed
for the `↔` of `C16_viewer_range_iff_scan` and for `C16_viewer_other_ids_unique`; `nodup` keeps the ids
left on the stack apart from the block being closed. -/
structure Inv (pre : List Stmt) (s : St) : Prop where
  n : s.n = pre.length
  firstNone : ∀ id, lookupFirst s.first id = none ↔ occ pre id = []
  firstSome : ∀ id i k, lookupFirst s.first id = some (i, k) →
    (∃ t, occ pre id = i :: t) ∧ pre[i]? = some ⟨k, id⟩
  stack : ∀ bid p, (bid, p) ∈ s.stack → occ pre bid = [p] ∧ pre[p]? = some ⟨Kind.start, bid⟩
  range : ∀ id p q, lookupRange s.ranges id = some (p, q) →
    occ pre id = [p, q] ∧ pre[p]? = some ⟨Kind.start, id⟩ ∧ pre[q]? = some ⟨Kind.fin, id⟩
  two : ∀ id, (occ pre id).length ≤ 2
  closed : ∀ id p q, occ pre id = [p, q] → lookupRange s.ranges id = some (p, q)
  nodup : (s.stack.map (fun e => e.1)).Nodup

theorem inv_init : Inv [] St.init :=
  ⟨rfl, fun _ => ⟨fun _ => rfl, fun _ => rfl⟩, fun _ _ _ h => (nomatch h), fun _ _ h => (nomatch h),
    fun _ _ _ h => (nomatch h), fun _ => Nat.zero_le 2, fun _ _ _ h => (nomatch h), .nil⟩

/-- `stack'`: pushed for a `block_start`, unchanged for an ordinary statement -/
theorem inv_fresh {pre : List Stmt} {s : St} (h : Inv pre s) (st : Stmt)
    (hf : lookupFirst s.first st.id = none) (stack' : List (Int × Nat))
    (hstack : ∀ bid p, (bid, p) ∈ stack' →
      (bid, p) ∈ s.stack ∨ (bid = st.id ∧ p = pre.length ∧ st.kind = Kind.start))
    (hnd : (stack'.map (fun e => e.1)).Nodup) :
    Inv (pre ++ [st])
      { n := s.n + 1, first := s.first ++ [(st.id, s.n, st.kind)], ranges := s.ranges, stack := stack' } := by
  have hocc : occ pre st.id = [] := (h.firstNone st.id).1 hf
  refine ⟨by simp [h.n], ?firstNone, ?firstSome, ?stack, ?range, ?two, ?closed, hnd⟩
  case firstNone =>
    intro id
    by_cases hid : st.id = id
    · subst hid
      rw [lookupFirst_append_fresh _ hf, occ_eq]; simp
    · rw [lookupFirst_append_ne hid, occ_ne hid]; exact h.firstNone id
  case firstSome =>
    intro id i k hl
    by_cases hid : st.id = id
    · subst hid
      rw [lookupFirst_append_fresh _ hf] at hl
      cases hl
      rw [occ_eq, hocc, h.n]
      exact ⟨⟨[], by simp⟩, by simp⟩
    · rw [lookupFirst_append_ne hid] at hl
      obtain ⟨a, b⟩ := h.firstSome id i k hl
      rw [occ_ne hid]
      exact ⟨a, get_append_some b⟩
  case stack =>
    -- ids on the stack occur in `pre`, hence are not `st.id`
    intro bid p hm
    rcases hstack bid p hm with hm | ⟨rfl, rfl, hk⟩
    · obtain ⟨a, b⟩ := h.stack bid p hm
      have hid : st.id ≠ bid := by rintro rfl; cases hocc.symm.trans a
      rw [occ_ne hid]
      exact ⟨a, get_append_some b⟩
    · rw [occ_eq, hocc]
      refine ⟨by simp, ?_⟩
      rw [List.getElem?_concat_length]
      cases st with
      | mk k i => simp only at hk; subst hk; rfl
  case range =>
    intro id p q hl
    obtain ⟨a, b, c⟩ := h.range id p q hl
    have hid : st.id ≠ id := by rintro rfl; cases hocc.symm.trans a
    rw [occ_ne hid]
    exact ⟨a, get_append_some b, get_append_some c⟩
  case two =>
    intro id
    by_cases hid : st.id = id
    · subst hid; rw [occ_eq, hocc]; simp
    · rw [occ_ne hid]; exact h.two id
  case closed =>
    intro id p q ho
    by_cases hid : st.id = id
    · subst hid; rw [occ_eq, hocc] at ho; simp at ho
    · rw [occ_ne hid] at ho; exact h.closed id p q ho

theorem inv_close {pre : List Stmt} {s : St} (h : Inv pre s) (st : Stmt) (hk : st.kind = Kind.fin)
    {i : Nat} {k0 : Kind} (hf : lookupFirst s.first st.id = some (i, k0))
    {p : Nat} {rest : List (Int × Nat)} (hs : s.stack = (st.id, p) :: rest) :
    Inv (pre ++ [st])
      { n := s.n + 1, first := s.first, ranges := (st.id, p, s.n) :: s.ranges, stack := rest } := by
  obtain ⟨hocc, hp⟩ := h.stack st.id p (by rw [hs]; simp)
  have hnd := h.nodup
  rw [hs] at hnd
  simp only [List.map_cons, List.nodup_cons] at hnd
  have hst : st = ⟨Kind.fin, st.id⟩ := by cases st with | mk k i => simp only at hk; subst hk; rfl
  refine ⟨by simp [h.n], ?firstNone, ?firstSome, ?stack, ?range, ?two, ?closed, hnd.2⟩
  case firstNone =>
    intro id
    by_cases hid : st.id = id
    · subst hid; rw [hf, occ_eq, hocc]; simp
    · rw [occ_ne hid]; exact h.firstNone id
  case firstSome =>
    intro id i' k hl
    by_cases hid : st.id = id
    · subst hid
      obtain ⟨⟨t, ht⟩, b⟩ := h.firstSome st.id i' k hl
      rw [occ_eq, ht]
      exact ⟨⟨t ++ [pre.length], by simp⟩, get_append_some b⟩
    · obtain ⟨a, b⟩ := h.firstSome id i' k hl
      rw [occ_ne hid]
      exact ⟨a, get_append_some b⟩
  case stack =>
    -- the ids left on the stack differ from `st.id` (`nodup`)
    intro bid p' hm
    have hm' : (bid, p') ∈ s.stack := by rw [hs]; exact List.mem_cons_of_mem _ hm
    obtain ⟨a, b⟩ := h.stack bid p' hm'
    have hid : st.id ≠ bid := by
      intro e
      apply hnd.1
      rw [e]
      exact List.mem_map.2 ⟨(bid, p'), hm, rfl⟩
    rw [occ_ne hid]
    exact ⟨a, get_append_some b⟩
  case range =>
    intro id p' q' hl
    by_cases hid : st.id = id
    · subst hid
      rw [lookupRange_cons_eq] at hl
      cases hl
      rw [occ_eq, hocc, h.n]
      refine ⟨by simp, get_append_some hp, ?_⟩
      rw [List.getElem?_concat_length]; exact congrArg some hst
    · rw [lookupRange_cons_ne hid] at hl
      obtain ⟨a, b, c⟩ := h.range id p' q' hl
      rw [occ_ne hid]
      exact ⟨a, get_append_some b, get_append_some c⟩
  case two =>
    intro id
    by_cases hid : st.id = id
    · subst hid; rw [occ_eq, hocc]; simp
    · rw [occ_ne hid]; exact h.two id
  case closed =>
    intro id p' q' ho
    by_cases hid : st.id = id
    · subst hid
      rw [occ_eq, hocc] at ho
      cases ho
      rw [lookupRange_cons_eq, h.n]
    · rw [occ_ne hid] at ho
      rw [lookupRange_cons_ne hid]
      exact h.closed id p' q' ho

theorem consume_inv {pre : List Stmt} {s s' : St} (h : Inv pre s) (st : Stmt)
    (hc : consume s st = .ok s') : Inv (pre ++ [st]) s' := by
  unfold consume at hc
  cases hf : lookupFirst s.first st.id with
  | none =>
    have hocc : occ pre st.id = [] := (h.firstNone st.id).1 hf
    simp only [hf] at hc
    cases hk : st.kind with
    | start =>
      simp only [hk, Except.ok.injEq] at hc
      subst hc
      have hstack : ∀ bid p, (bid, p) ∈ (st.id, s.n) :: s.stack →
          (bid, p) ∈ s.stack ∨ (bid = st.id ∧ p = pre.length ∧ st.kind = Kind.start) := by
        intro bid p hm
        rcases List.mem_cons.1 hm with e | hm
        · simp only [Prod.mk.injEq] at e
          exact Or.inr ⟨e.1, by rw [e.2, h.n], hk⟩
        · exact Or.inl hm
      -- pushing keeps `nodup`: an id not seen before is not on the stack
      have hnd : (((st.id, s.n) :: s.stack).map (fun e => e.1)).Nodup := by
        simp only [List.map_cons, List.nodup_cons]
        refine ⟨?_, h.nodup⟩
        intro hm
        obtain ⟨⟨bid, p⟩, hm, e⟩ := List.mem_map.1 hm
        simp only at e
        have := (h.stack bid p hm).1
        rw [e, hocc] at this; exact absurd this (by simp)
      have := inv_fresh h st hf _ hstack hnd
      rw [hk] at this; exact this
    | other =>
      simp only [hk, Except.ok.injEq] at hc
      subst hc
      have := inv_fresh h st hf s.stack (fun bid p hm => Or.inl hm) h.nodup
      rw [hk] at this; exact this
    | fin =>
      simp only [hk] at hc
      cases hs : s.stack with
      | nil => simp [hs] at hc
      | cons top rest =>
        obtain ⟨bid, p⟩ := top
        simp only [hs] at hc
        -- a `block_end` with an id not seen before cannot match the stack top, whose id occurs in `pre`
        by_cases hb : bid = st.id
        · subst hb
          have := (h.stack st.id p (by rw [hs]; simp)).1
          rw [hocc] at this; exact absurd this (by simp)
        · simp [hb] at hc
  | some e =>
    obtain ⟨i, k0⟩ := e
    simp only [hf] at hc
    by_cases hcond : k0 = Kind.start ∧ st.kind = Kind.fin
    · simp only [hcond, and_self, if_true] at hc
      have hk := hcond.2
      cases hs : s.stack with
      | nil => simp [hs] at hc
      | cons top rest =>
        obtain ⟨bid, p⟩ := top
        simp only [hs] at hc
        by_cases hb : bid = st.id
        · subst hb
          simp only [ne_eq, not_true_eq_false, if_false, Except.ok.injEq] at hc
          subst hc
          exact inv_close h st hk hf hs
        · simp [hb] at hc
    · simp [hcond] at hc

theorem consumeAll_inv (rest : List Stmt) :
    ∀ (pre : List Stmt) (s s' : St), Inv pre s → consumeAll s rest = .ok s' → Inv (pre ++ rest) s' := by
  induction rest with
  | nil =>
    intro pre s s' h hc
    simp only [consumeAll, Except.ok.injEq] at hc
    subst hc; simpa using h
  | cons st rest ih =>
    intro pre s s' h hc
    simp only [consumeAll] at hc
    cases h1 : consume s st with
    | error e => simp [h1] at hc
    | ok s1 =>
      simp only [h1] at hc
      have := ih (pre ++ [st]) s1 s' (consume_inv h st h1) hc
      simpa using this

theorem build_inv {stmts : List Stmt} {s : St} (h : build stmts = .ok s) : Inv stmts s := by
  unfold build at h
  cases hc : consumeAll St.init stmts with
  | error e => simp [hc] at h
  | ok s1 =>
    simp only [hc] at h
    split at h <;> cases h
    exact consumeAll_inv stmts [] St.init s inv_init hc

theorem occFrom_sorted (l : List Stmt) (id : Int) :
    ∀ s, (∀ x ∈ occFrom s l id, s ≤ x) ∧ (occFrom s l id).Pairwise (· < ·) := by
  induction l with
  | nil => intro s; exact ⟨fun _ h => (nomatch h), .nil⟩
  | cons st rest ih =>
    intro s
    obtain ⟨ge, srt⟩ := ih (s + 1)
    have ge' : ∀ x ∈ occFrom (s + 1) rest id, s ≤ x := fun x hx => Nat.le_of_succ_le (ge x hx)
    simp only [occFrom]
    split
    · exact ⟨fun x hx => (List.mem_cons.1 hx).elim (· ▸ Nat.le_refl _) (ge' x), .cons ge srt⟩
    · exact ⟨ge', srt⟩

theorem occ_pair_lt {l : List Stmt} {id : Int} {p q : Nat} (h : occ l id = [p, q]) : p < q :=
  (List.pairwise_cons.1 (h ▸ (occFrom_sorted l id 0).2 : [p, q].Pairwise (· < ·))).1 q (.head _)

theorem visible_ofNat (stmts : List Stmt) (p q : Nat) :
    visible stmts ((p : Int), (q : Int)) = (stmts.drop (p + 1)).take (q - (p + 1)) := by
  rw [visible, ← Int.natCast_succ, Int.toNat_natCast, Int.toNat_sub]

end LianVerif.BlockView
