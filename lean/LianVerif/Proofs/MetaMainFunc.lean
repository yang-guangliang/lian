/-
C12 for `add_main_func`: (1) it commutes with every map on rows that keeps operation, id and parent and
fixes the three rows it synthesises (`addMainFunc_map`; Properties/C12 instantiates it with the map that
erases the location attributes); (2) exchanging two adjacent top-level declaration subtrees in its
input exchanges them in its output and changes nothing else.
-/
import LianVerif.Model.Meta
import LianVerif.Proofs.MainFunc

namespace LianVerif.Meta
open LianVerif.Gir LianVerif.MainFunc

/-- the row maps `addMainFunc_map` is about. `reparent` does not follow from the other fields: `f` may
compute attributes from the parent. -/
structure AttrOnly (f : Row → Row) : Prop where
  op : ∀ r, (f r).op = r.op
  id : ∀ r, (f r).id = r.id
  parent : ∀ r, (f r).parent = r.parent
  reparent : ∀ b r, f (MainFunc.reparent b r) = MainFunc.reparent b (f r)

theorem split_map {f : Row → Row} (hf : AttrOnly f) (P : Params) : ∀ (rows : Rows) (mv : Bool),
    split P mv (rows.map f) = ((split P mv rows).1.map f, (split P mv rows).2.map f)
  | [], _ => rfl
  | r :: rest, mv => by
    have hm : moves P mv (f r) = moves P mv r := by simp only [moves, hf.parent, hf.op]
    rw [List.map_cons, split_cons, split_cons, hm, split_map hf P rest true, split_map hf P rest false]
    cases moves P mv r <;> rfl

theorem nextId_map {f : Row → Row} (hf : AttrOnly f) (rows : Rows) : nextId (rows.map f) = nextId rows := by
  unfold nextId
  generalize 0 = m
  induction rows generalizing m with
  | nil => rfl
  | cons r rest ih => simp only [List.map_cons, List.foldl_cons, hf.id, ih]

theorem addMainFunc_map {f : Row → Row} (hf : AttrOnly f) (P : Params)
    (hinit : ∀ m, f (initDecl P m) = initDecl P m) (hs : ∀ b o, f (mkStart b o) = mkStart b o)
    (he : ∀ b o, f (mkEnd b o) = mkEnd b o) (rows : Rows) :
    addMainFunc P (rows.map f) = (addMainFunc P rows).map f := by
  rw [addMainFunc_eq, addMainFunc_eq, split_map hf, nextId_map hf]
  simp only [List.isEmpty_map]
  split
  · rfl
  · simp only [List.map_append, List.map_cons, List.map_nil, hinit, hs, he, List.map_map]
    congr 3
    funext r
    exact (hf.reparent _ r).symm

theorem eraseLocG_attrOnly : AttrOnly eraseLocG where
  op := fun _ => rfl
  id := fun _ => rfl
  parent := fun _ => rfl
  reparent := fun b r => by
    unfold MainFunc.reparent eraseLocG
    split <;> rfl

/-- a top-level declaration with everything below it -/
structure DeclTree (P : Params) (T : Rows) : Prop where
  ne : T ≠ []
  head_top : ∀ r ∈ T.head?, r.parent = 0 ∧ MainFunc.keepsTop P r.op = true
  tail_nz : ∀ r ∈ T.tail, r.parent ≠ 0

def HeadTop (X : Rows) : Prop := ∀ r ∈ X.head?, r.parent = 0

theorem split_flag_irrelevant (P : Params) {X : Rows} (h : HeadTop X) (b b' : Bool) : split P b X = split P b' X := by
  cases X with
  | nil => rfl
  | cons r rest => simp only [split_cons, moves, beq_iff_eq.2 (h r rfl), if_true]

theorem split_append (P : Params) {X : Rows} (h : HeadTop X) (b : Bool) : ∀ (pre : Rows) (mv : Bool),
    split P mv (pre ++ X) = ((split P mv pre).1 ++ (split P b X).1, (split P mv pre).2 ++ (split P b X).2)
  | [], mv => by rw [List.nil_append, split_flag_irrelevant P h mv b]; rfl
  | r :: rest, mv => by
    rw [List.cons_append, split_cons, split_cons, split_append P h b rest true, split_append P h b rest false]
    cases moves P mv r <;> rfl

theorem split_declTree (P : Params) {T : Rows} (hT : DeclTree P T) (rest : Rows) (mv : Bool) :
    split P mv (T ++ rest) = (T ++ (split P false rest).1, (split P false rest).2) := by
  cases T with
  | nil => exact absurd rfl hT.ne
  | cons r sub =>
    obtain ⟨hp, hk⟩ := hT.head_top r (by simp)
    -- the head stays (so the flag becomes `false`), and the rows below it follow the flag
    have hm : moves P mv r = false := by simp [moves, hp, hk]
    rw [List.cons_append, split_cons, hm, split_nz P rest sub false hT.tail_nz]
    rfl

theorem DeclTree.headTop {P : Params} {T : Rows} (hT : DeclTree P T) (rest : Rows) : HeadTop (T ++ rest) := by
  cases T with
  | nil => exact absurd rfl hT.ne
  | cons r sub =>
    intro x hx
    simp only [List.cons_append, List.head?_cons, Option.mem_def, Option.some.injEq] at hx
    subst hx
    exact (hT.head_top r (by simp)).1

theorem addMainFunc_swap (P : Params) {A B : Rows} (hA : DeclTree P A) (hB : DeclTree P B) (pre post : Rows) :
    ∃ hd tl, addMainFunc P (pre ++ (A ++ (B ++ post))) = hd ++ (A ++ (B ++ tl)) ∧
             addMainFunc P (pre ++ (B ++ (A ++ post))) = hd ++ (B ++ (A ++ tl)) := by
  have hAB : split P false (pre ++ (A ++ (B ++ post))) =
      ((split P false pre).1 ++ (A ++ (B ++ (split P false post).1)), (split P false pre).2 ++ (split P false post).2) := by
    rw [split_append P (hA.headTop _) false, split_declTree P hA, split_declTree P hB]
  have hBA : split P false (pre ++ (B ++ (A ++ post))) =
      ((split P false pre).1 ++ (B ++ (A ++ (split P false post).1)), (split P false pre).2 ++ (split P false post).2) := by
    rw [split_append P (hB.headTop _) false, split_declTree P hB, split_declTree P hA]
  have hn : nextId (pre ++ (B ++ (A ++ post))) = nextId (pre ++ (A ++ (B ++ post))) :=
    nextId_congr fun _ => ((List.perm_append_comm_assoc B A post).append_left pre).mem_iff
  rw [addMainFunc_eq, addMainFunc_eq, hAB, hBA, hn]
  simp only
  by_cases he : ((split P false pre).2 ++ (split P false post).2).isEmpty = true
  · exact ⟨pre, post, by rw [if_pos he], by rw [if_pos he]⟩
  · rw [if_neg he, if_neg he]
    simp only [List.append_assoc]
    exact ⟨_, _, rfl, rfl⟩

end LianVerif.Meta
