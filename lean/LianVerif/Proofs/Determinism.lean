/-
C14: a stable sort erases the order of its input when the sort key is injective on it
(`sortLe_eq_of_perm`); the loops of `map_arguments` touch the hash-ordered `rest_parameters` only
through `discard`, so they respect `RestRel` (`mapArgs_perm`).
-/
import LianVerif.Model.Determinism
import LianVerif.Proofs.ListAux

namespace LianVerif.Determinism
open List

variable {α : Type}

theorem perm_insertLe (le : α → α → Bool) (x : α) (l : List α) : insertLe le x l ~ x :: l := by
  induction l with
  | nil => exact Perm.refl _
  | cons y ys ih =>
    unfold insertLe
    split
    · exact Perm.refl _
    · exact (Perm.cons y ih).trans (Perm.swap x y ys)

theorem perm_sortLe (le : α → α → Bool) (l : List α) : sortLe le l ~ l := by
  induction l with
  | nil => exact Perm.refl _
  | cons x xs ih =>
    show insertLe le x (sortLe le xs) ~ x :: xs
    exact (perm_insertLe le x _).trans (Perm.cons x ih)

theorem mem_insertLe {le : α → α → Bool} {x a : α} {l : List α} : a ∈ insertLe le x l ↔ a = x ∨ a ∈ l := by
  rw [(perm_insertLe le x l).mem_iff, mem_cons]

theorem pairwise_insertLe {le : α → α → Bool}
    (trans : ∀ a b c, le a b = true → le b c = true → le a c = true)
    (total : ∀ a b, le a b = true ∨ le b a = true)
    (x : α) {l : List α} (h : l.Pairwise (fun a b => le a b = true)) :
    (insertLe le x l).Pairwise (fun a b => le a b = true) := by
  induction l with
  | nil => exact pairwise_singleton _ _
  | cons y ys ih =>
    rw [pairwise_cons] at h
    unfold insertLe
    split
    · rename_i hxy
      exact pairwise_cons.2 ⟨forall_mem_cons.2 ⟨hxy, fun b hb => trans _ _ _ hxy (h.1 b hb)⟩, pairwise_cons.2 h⟩
    · rename_i hxy
      refine pairwise_cons.2 ⟨fun b hb => ?_, ih h.2⟩
      rcases mem_insertLe.1 hb with rfl | hb
      · exact (total b y).resolve_left hxy
      · exact h.1 b hb

theorem pairwise_sortLe {le : α → α → Bool}
    (trans : ∀ a b c, le a b = true → le b c = true → le a c = true)
    (total : ∀ a b, le a b = true ∨ le b a = true) (l : List α) :
    (sortLe le l).Pairwise (fun a b => le a b = true) := by
  induction l with
  | nil => simp [sortLe]
  | cons x xs ih => exact pairwise_insertLe trans total x ih

theorem sortLe_eq_of_perm {le : α → α → Bool}
    (trans : ∀ a b c, le a b = true → le b c = true → le a c = true)
    (total : ∀ a b, le a b = true ∨ le b a = true)
    {l₁ l₂ : List α} (antisymm : ∀ a ∈ l₁, ∀ b ∈ l₁, le a b = true → le b a = true → a = b)
    (h : l₁ ~ l₂) : sortLe le l₁ = sortLe le l₂ := by
  have hp : sortLe le l₁ ~ sortLe le l₂ := (perm_sortLe le l₁).trans (h.trans (perm_sortLe le l₂).symm)
  refine Perm.eq_of_pairwise (le := fun a b => le a b = true) ?_ (pairwise_sortLe trans total l₁)
    (pairwise_sortLe trans total l₂) hp
  intro a b ha hb hab hba
  have ha' : a ∈ l₁ := (perm_sortLe le l₁).mem_iff.1 ha
  have hb' : b ∈ l₁ := h.mem_iff.2 ((perm_sortLe le l₂).mem_iff.1 hb)
  exact antisymm a ha' b hb' hab hba

theorem leBy_trans (key : α → Int) (a b c : α) : leBy key a b = true → leBy key b c = true → leBy key a c = true := by
  simp only [leBy, decide_eq_true_eq]; exact Int.le_trans

theorem leBy_total (key : α → Int) (a b : α) : leBy key a b = true ∨ leBy key b a = true := by
  simp only [leBy, decide_eq_true_eq]; exact Int.le_total _ _

theorem inj_of_nodup_map {β : Type} (key : α → β) {l : List α} (h : (l.map key).Nodup) :
    ∀ a ∈ l, ∀ b ∈ l, key a = key b → a = b :=
  -- equal keys at two different positions contradict `Nodup`; the claim is symmetric in `a`, `b`
  have hp := pairwise_map.1 h
  fun _ ha _ hb => Pairwise.forall_of_forall_of_flip (R := fun a b => key a = key b → a = b) (fun _ _ _ => rfl)
    (hp.imp fun h e => absurd e h) (hp.imp fun h e => absurd e.symm h) ha hb

theorem sortBy_eq_of_perm (key : α → Int) {l₁ l₂ : List α} (hk : (l₁.map key).Nodup) (h : l₁ ~ l₂) :
    sortLe (leBy key) l₁ = sortLe (leBy key) l₂ := by
  refine sortLe_eq_of_perm (leBy_trans key) (leBy_total key) ?_ h
  intro a ha b hb hab hba
  apply inj_of_nodup_map key hk a ha b hb
  simp only [leBy, decide_eq_true_eq] at hab hba
  exact Int.le_antisymm hab hba

theorem lexLe_total : ∀ (a b : List Int), lexLe a b = true ∨ lexLe b a = true
  | [], _ => Or.inl (by simp [lexLe])
  | _ :: _, [] => Or.inr (by simp [lexLe])
  | a :: as, b :: bs => by
    simp only [lexLe, Bool.or_eq_true, decide_eq_true_eq, Bool.and_eq_true, beq_iff_eq]
    rcases Int.lt_trichotomy a b with h | h | h
    · exact Or.inl (Or.inl h)
    · subst h
      rcases lexLe_total as bs with h' | h'
      · exact Or.inl (Or.inr ⟨rfl, h'⟩)
      · exact Or.inr (Or.inr ⟨rfl, h'⟩)
    · exact Or.inr (Or.inl h)

theorem lexLe_trans : ∀ (a b c : List Int), lexLe a b = true → lexLe b c = true → lexLe a c = true
  | [], _, _ => by intro _ _; simp [lexLe]
  | _ :: _, [], _ => by intro h; simp [lexLe] at h
  | _ :: _, _ :: _, [] => by intro _ h; simp [lexLe] at h
  | a :: as, b :: bs, c :: cs => by
    simp only [lexLe, Bool.or_eq_true, decide_eq_true_eq, Bool.and_eq_true, beq_iff_eq]
    rintro (h1 | ⟨h1, h1'⟩) (h2 | ⟨h2, h2'⟩)
    · exact Or.inl (Int.lt_trans h1 h2)
    · exact Or.inl (h2 ▸ h1)
    · exact Or.inl (h1 ▸ h2)
    · exact Or.inr ⟨h1.trans h2, lexLe_trans as bs cs h1' h2'⟩

theorem lexLe_antisymm : ∀ (a b : List Int), lexLe a b = true → lexLe b a = true → a = b
  | [], [] => by intro _ _; rfl
  | [], _ :: _ => by intro _ h; simp [lexLe] at h
  | _ :: _, [] => by intro h; simp [lexLe] at h
  | a :: as, b :: bs => by
    simp only [lexLe, Bool.or_eq_true, decide_eq_true_eq, Bool.and_eq_true, beq_iff_eq]
    rintro (h1 | ⟨h1, h1'⟩) (h2 | ⟨h2, h2'⟩)
    · exact absurd h2 (Int.lt_asymm h1)
    · exact absurd h2.symm (Int.ne_of_lt h1)
    · exact absurd h1.symm (Int.ne_of_lt h2)
    · rw [h1, lexLe_antisymm as bs h1' h2']

theorem dedupFirst_eq_foldl (xs : List String) : ∀ acc : List String,
    dedupFirst xs acc = xs.foldl (fun acc y => if acc.contains y then acc else acc ++ [y]) acc := by
  induction xs with
  | nil => intro _; rfl
  | cons v vs ih => intro acc; rw [dedupFirst, foldl_cons]; split <;> exact ih _

theorem mem_dedupFirst (xs : List String) (acc : List String) (t : String) :
    t ∈ dedupFirst xs acc ↔ (t ∈ acc ∨ t ∈ xs) :=
  dedupFirst_eq_foldl xs acc ▸ mem_foldl_addUnless

theorem nodup_dedupFirst (xs : List String) (acc : List String) (h : acc.Nodup) : (dedupFirst xs acc).Nodup :=
  dedupFirst_eq_foldl xs acc ▸ nodup_foldl_addUnless h xs

theorem find?_eq_of_perm {p : α → Bool} {l₁ l₂ : List α} (h : l₁ ~ l₂)
    (hu : ∀ a ∈ l₁, ∀ b ∈ l₁, p a = true → p b = true → a = b) : l₁.find? p = l₂.find? p := by
  cases h2 : l₂.find? p with
  | none => exact find?_eq_none.2 fun a ha => find?_eq_none.1 h2 a (h.mem_iff.1 ha)
  | some b =>
    have hb := h.mem_iff.2 (mem_of_find?_eq_some h2)
    cases h1 : l₁.find? p with
    | none => exact absurd (find?_some h2) (find?_eq_none.1 h1 b hb)
    | some a => exact congrArg some (hu a (mem_of_find?_eq_some h1) b hb (find?_some h1) (find?_some h2))

theorem lookupDefault_perm {d₁ d₂ : List (Int × Int)} (hk : (d₁.map Prod.fst).Nodup) (h : d₁ ~ d₂) (sym : Int) :
    lookupDefault d₁ sym = lookupDefault d₂ sym := by
  unfold lookupDefault
  rw [find?_eq_of_perm h fun a ha b hb pa pb =>
    inj_of_nodup_map Prod.fst hk a ha b hb ((beq_iff_eq.1 pa).trans (beq_iff_eq.1 pb).symm)]

/-- what may differ between two runs in the `rest_parameters` set: its iteration order.  The positions
are pairwise different (said of `r₁`, which transfers to `r₂`), so sorting by position erases the order. -/
def RestRel (r₁ r₂ : List Param) : Prop := r₁ ~ r₂ ∧ (r₁.map Param.position).Nodup

theorem RestRel.discard {r₁ r₂ : List Param} (h : RestRel r₁ r₂) (p : Param) :
    RestRel (discard r₁ p) (discard r₂ p) := by
  refine ⟨h.1.filter _, ?_⟩
  exact h.2.sublist ((filter_sublist (l := r₁)).map Param.position)

theorem RestRel.ite {r₁ r₂ r₁' r₂' : List Param} (c : Prop) [Decidable c] (h : RestRel r₁ r₂)
    (h' : RestRel r₁' r₂') : RestRel (if c then r₁ else r₁') (if c then r₂ else r₂') := by
  split <;> assumption

def StRel {β : Type} (a b : List Param × β) : Prop := RestRel a.1 b.1 ∧ a.2 = b.2

theorem StRel.ite {β : Type} {a₁ a₂ b₁ b₂ : List Param × β} (c : Prop) [Decidable c] (ha : StRel a₁ a₂)
    (hb : StRel b₁ b₂) : StRel (if c then a₁ else b₁) (if c then a₂ else b₂) := by
  split <;> assumption

theorem positionalLoop_perm (c : Consts) :
    ∀ (argss : List (List Arg)) (ps : List Param) (r₁ r₂ : List Param) (out : List Mapping),
      RestRel r₁ r₂ → StRel (positionalLoop c argss ps r₁ out) (positionalLoop c argss ps r₂ out) := by
  intro argss
  induction argss with
  | nil => exact fun ps r₁ r₂ out h => ⟨h, rfl⟩
  | cons args argss ih =>
    intro ps r₁ r₂ out h
    cases ps with
    | nil => exact ⟨h, rfl⟩
    | cons p ps => exact ih ps _ _ _ (.ite _ h (h.discard p))

/-- two dicts of keyword arguments that differ only in the iteration order of their value sets -/
inductive NamedRel : List (String × List Arg) → List (String × List Arg) → Prop
  | nil : NamedRel [] []
  | cons {name : String} {a₁ a₂ : List Arg} {m₁ m₂ : List (String × List Arg)} :
      a₁ ~ a₂ → (a₁.map Arg.indexInSpace).Nodup → NamedRel m₁ m₂ → NamedRel ((name, a₁) :: m₁) ((name, a₂) :: m₂)

theorem NamedRel.isEmpty_eq {m₁ m₂} (h : NamedRel m₁ m₂) : m₁.isEmpty = m₂.isEmpty := by
  cases h <;> rfl

abbrev sortArgs : List Arg → List Arg := sortLe (leBy Arg.indexInSpace)
abbrev sortParams : List Param → List Param := sortLe (leBy Param.position)

theorem sortArgs_perm {a₁ a₂ : List Arg} (hnd : (a₁.map Arg.indexInSpace).Nodup) (h : a₁ ~ a₂) :
    sortArgs a₁ = sortArgs a₂ := sortBy_eq_of_perm Arg.indexInSpace hnd h

theorem sortParams_perm {r₁ r₂ : List Param} (hnd : (r₁.map Param.position).Nodup) (h : r₁ ~ r₂) :
    sortParams r₁ = sortParams r₂ := sortBy_eq_of_perm Param.position hnd h

theorem namedLoop_perm (c : Consts) (tailParams : List Param) :
    ∀ {m₁ m₂ : List (String × List Arg)}, NamedRel m₁ m₂ →
      ∀ (r₁ r₂ : List Param) (matched : List String) (out : List Mapping), RestRel r₁ r₂ →
      StRel (namedLoop c sortArgs tailParams m₁ r₁ matched out)
        (namedLoop c sortArgs tailParams m₂ r₂ matched out) := by
  intro m₁ m₂ hm
  induction hm with
  | nil => exact fun r₁ r₂ matched out h => ⟨h, rfl⟩
  | @cons name a₁ a₂ m₁ m₂ ha hnd _ ih =>
    intro r₁ r₂ matched out h
    unfold namedLoop
    cases lookupName tailParams name with
    | none => exact ih r₁ r₂ matched out h
    | some p =>
      dsimp only
      rw [← ha.isEmpty_eq, ← sortArgs_perm hnd ha]
      exact .ite _ (ih _ _ _ _ h) (ih _ _ _ _ (h.discard p))

theorem packedPosLoop_perm (c : Consts) (pp : Param) :
    ∀ (argss : List (List Arg)) (idx : Nat) (r₁ r₂ : List Param) (out : List Mapping), RestRel r₁ r₂ →
      StRel (packedPosLoop c pp argss idx r₁ out) (packedPosLoop c pp argss idx r₂ out) := by
  intro argss
  induction argss with
  | nil => exact fun idx r₁ r₂ out h => ⟨h, rfl⟩
  | cons args argss ih => exact fun idx r₁ r₂ out h => ih _ _ _ _ (.ite _ h (h.discard pp))

theorem packedNamedLoop_perm (c : Consts) (pn : Param) :
    ∀ {m₁ m₂ : List (String × List Arg)}, NamedRel m₁ m₂ →
      ∀ (r₁ r₂ : List Param) (matched : List String) (out : List Mapping), RestRel r₁ r₂ →
      StRel (packedNamedLoop c sortArgs pn m₁ r₁ matched out)
        (packedNamedLoop c sortArgs pn m₂ r₂ matched out) := by
  intro m₁ m₂ hm
  induction hm with
  | nil => exact fun r₁ r₂ matched out h => ⟨h, rfl⟩
  | @cons name a₁ a₂ m₁ m₂ ha hnd _ ih =>
    intro r₁ r₂ matched out h
    unfold packedNamedLoop
    rw [← ha.isEmpty_eq, ← sortArgs_perm hnd ha]
    exact .ite _ (ih _ _ _ _ h) (ih _ _ _ _ (.ite _ h (h.discard pn)))

theorem defaultsLoop_perm (c : Consts) {d₁ d₂ : List (Int × Int)} (hk : (d₁.map Prod.fst).Nodup) (hd : d₁ ~ d₂)
    {r₁ r₂ : List Param} (h : RestRel r₁ r₂) :
    defaultsLoop c d₁ (sortParams r₁) = defaultsLoop c d₂ (sortParams r₂) := by
  have hs : sortParams r₁ = sortParams r₂ := sortParams_perm h.2 h.1
  rw [hs]
  unfold defaultsLoop
  congr 1
  funext p
  rw [lookupDefault_perm hk hd]

/-- two inputs of `map_arguments` that differ only in the iteration order of the three hash-ordered
sets, the sort keys being injective on them -/
structure InRel (i₁ i₂ : MapIn) : Prop where
  rest : RestRel i₁.allParams i₂.allParams
  positional : i₁.positional = i₂.positional
  packedPositional : i₁.packedPositional = i₂.packedPositional
  packedNamed : i₁.packedNamed = i₂.packedNamed
  posArgs : i₁.posArgs = i₂.posArgs
  named : NamedRel i₁.namedArgs i₂.namedArgs
  defaults : i₁.defaults ~ i₂.defaults
  defaultsKey : (i₁.defaults.map Prod.fst).Nodup

theorem stage1_perm (c : Consts) {i₁ i₂ : MapIn} (h : InRel i₁ i₂) : StRel (stage1 c i₁) (stage1 c i₂) := by
  unfold stage1
  rw [h.positional, h.posArgs]
  exact positionalLoop_perm c _ _ _ _ [] h.rest

theorem stage2_perm (c : Consts) {i₁ i₂ : MapIn} (h : InRel i₁ i₂) {s₁ s₂ : List Param × List Mapping}
    (hs : StRel s₁ s₂) : StRel (stage2 sortArgs c i₁ s₁) (stage2 sortArgs c i₂ s₂) := by
  unfold stage2
  rw [h.positional, h.posArgs, h.packedPositional, ← h.named.isEmpty_eq, hs.2]
  refine .ite _ (.ite _ (namedLoop_perm c _ h.named _ _ [] _ hs.1) ⟨hs.1, rfl⟩) (.ite _ ?_ ⟨hs.1, rfl⟩)
  cases i₂.packedPositional with
  | none => exact ⟨hs.1, rfl⟩
  | some pp =>
    have := packedPosLoop_perm c pp (i₂.posArgs.drop (min i₂.posArgs.length i₂.positional.length)) 0 _ _ s₂.2 hs.1
    exact ⟨this.1, congrArg (Prod.mk []) this.2⟩

theorem stage3_perm (c : Consts) {i₁ i₂ : MapIn} (h : InRel i₁ i₂)
    {s₁ s₂ : List Param × List String × List Mapping} (hs : StRel s₁ s₂) :
    StRel (stage3 sortArgs c i₁ s₁) (stage3 sortArgs c i₂ s₂) := by
  unfold stage3
  rw [h.packedNamed, hs.2]
  cases i₂.packedNamed with
  | none => exact ⟨hs.1, rfl⟩
  | some pn => exact packedNamedLoop_perm c pn h.named _ _ _ _ hs.1

theorem mapArgs_perm (c : Consts) {i₁ i₂ : MapIn} (h : InRel i₁ i₂) : mapArgs c i₁ = mapArgs c i₂ := by
  have h3 := stage3_perm c h (stage2_perm c h (stage1_perm c h))
  show (stage3 sortArgs c i₁ _).2 ++ defaultsLoop c i₁.defaults (sortParams (stage3 sortArgs c i₁ _).1) =
       (stage3 sortArgs c i₂ _).2 ++ defaultsLoop c i₂.defaults (sortParams (stage3 sortArgs c i₂ _).1)
  rw [h3.2, defaultsLoop_perm c h.defaultsKey h.defaults h3.1]

end LianVerif.Determinism
