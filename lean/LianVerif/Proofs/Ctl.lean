/-
Proofs/Ctl.lean — the successor check is sound: if a link relation contains every required edge
(`req`), every control-skeleton run (`exec`) is a chain of it whose last step is linked to whatever can
follow its outcome (`exec_ok`, at method level `run_post`).  Runs are reasoned about through one
judgement, `Run`, with a rule for each way `exec` composes them; the simulation in
`Proofs/CfgSound.lean` uses the same rules.
-/
import LianVerif.Spec.Ctl

namespace LianVerif.Cfg

/- `L a x`: step `x` may follow `a`; `L none x`: `x` may be the first step of all. -/
variable {L : Option Int → Int → Prop}

def chainO (L : Option Int → Int → Prop) : Option Int → List Int → Prop
  | _, [] => True
  | a, x :: xs => L a x ∧ chainO L (some x) xs

def lastO : Option Int → List Int → Option Int
  | a, [] => a
  | _, x :: xs => lastO (some x) xs

theorem lastO_append (a : Option Int) (t1 t2 : List Int) :
    lastO a (t1 ++ t2) = lastO (lastO a t1) t2 := by
  induction t1 generalizing a with
  | nil => rfl
  | cons x xs ih => exact ih _

theorem lastO_isSome {a : Option Int} (t : List Int) (h : a.isSome) : (lastO a t).isSome := by
  induction t generalizing a with
  | nil => exact h
  | cons z t ih => exact ih rfl

theorem lastO_none_getLast? : ∀ (t : List Int), lastO none t = t.getLast?
  | [] => rfl
  | [_] => rfl
  | _ :: y :: t => lastO_none_getLast? (y :: t)

theorem chainO_append (a : Option Int) (t1 t2 : List Int) :
    chainO L a (t1 ++ t2) ↔ chainO L a t1 ∧ chainO L (lastO a t1) t2 := by
  induction t1 generalizing a with
  | nil => simp [chainO, lastO]
  | cons x xs ih => simp [chainO, lastO, ih, and_assoc]

/-- nothing is claimed of the outcome of a run that stopped for want of fuel or oracle -/
def Run (L : Option Int → Int → Prop) (a : Option Int) (r : Res) (Φ : Out → Option Int → Prop) : Prop :=
  chainO L a r.tr ∧ (r.out ≠ .stop → Φ r.out (lastO a r.tr))

variable {a : Option Int} {r : Res} {Φ Ψ : Out → Option Int → Prop} {f : List Bool → Res} {k : K}

theorem run_stop {o : List Bool} : Run L a (stopRes o) Φ := ⟨trivial, fun h => absurd rfl h⟩

theorem run_nil {o : List Bool} (h : Φ .normal a) : Run L a ⟨[], .normal, o⟩ Φ := ⟨trivial, fun _ => h⟩

theorem run_one {id : Nat} {out : Out} {o : List Bool} (ha : L a id) (h : Φ out (some (id : Int))) :
    Run L a ⟨[(id : Int)], out, o⟩ Φ := ⟨⟨ha, trivial⟩, fun _ => h⟩

theorem run_mono (h : Run L a r Φ) (hΦ : ∀ x, Φ r.out x → Ψ r.out x) : Run L a r Ψ :=
  ⟨h.1, fun hs => hΦ _ (h.2 hs)⟩

/-- rules out the vacuous `none` where a postcondition speaks of an empty set of predecessors -/
theorem run_some (h : Run L a r Φ) : Run L a r fun out y => (a.isSome → y.isSome) ∧ Φ out y :=
  ⟨h.1, fun hs => ⟨lastO_isSome r.tr, h.2 hs⟩⟩

theorem run_norm_bind (h : Run L a r Φ) (hs : r.out ≠ .stop) (hf : ∀ x, Φ r.out x → ∀ o, Run L x (f o) Ψ) :
    Run L a (r.norm.bind f) Ψ := by
  show chainO L a (r.tr ++ (f r.o).tr) ∧ (_ → Ψ (f r.o).out (lastO a (r.tr ++ (f r.o).tr)))
  rw [lastO_append, chainO_append]
  exact ⟨⟨h.1, (hf _ (h.2 hs) _).1⟩, (hf _ (h.2 hs) _).2⟩

theorem bind_normal (h : r.out = .normal) : r.bind f = r.norm.bind f := by
  simp only [Res.bind, Res.norm, h]

theorem bind_abrupt (h : r.out ≠ .normal) : r.bind f = r := by
  unfold Res.bind
  split
  · contradiction
  · rfl

theorem run_bind (h : Run L a r Φ) (hΦ : r.out ≠ .normal → ∀ x, Φ r.out x → Ψ r.out x)
    (hf : ∀ x, Φ .normal x → ∀ o, Run L x (f o) Ψ) : Run L a (r.bind f) Ψ := by
  by_cases hn : r.out = .normal
  · rw [bind_normal hn]
    exact run_norm_bind h (by simp [hn]) (hn ▸ hf)
  · rw [bind_abrupt hn]
    exact run_mono h (hΦ hn)

theorem run_afterBody {again exit : List Bool → Res} (h : Run L a r Φ)
    (hagain : ∀ x, Φ .normal x ∨ Φ .cont x → ∀ o, Run L x (again o) Ψ)
    (hexit : ∀ x, Φ .brk x → ∀ o, Run L x (exit o) Ψ)
    (hret : ∀ x, Φ .ret x → Ψ .ret x) (hraise : ∀ x, Φ .raise x → Ψ .raise x) :
    Run L a (afterBody r again exit) Ψ := by
  unfold afterBody
  cases hr : r.out <;> simp only
  case normal => exact run_norm_bind h (by simp [hr]) fun x hx => hagain x (.inl (hr ▸ hx))
  case cont => exact run_norm_bind h (by simp [hr]) fun x hx => hagain x (.inr (hr ▸ hx))
  case brk => exact run_norm_bind h (by simp [hr]) fun x hx => hexit x (hr ▸ hx)
  case ret => exact run_mono h fun x hx => by rw [hr] at hx ⊢; exact hret x hx
  case raise => exact run_mono h fun x hx => by rw [hr] at hx ⊢; exact hraise x hx
  case stop => exact ⟨h.1, fun hs => absurd hr hs⟩

theorem run_tick_bind {rz : Bool} {id : Nat} {o : List Bool} (ha : L a id)
    (he : rz = true → Ψ .raise (some (id : Int))) (hf : ∀ o', Run L (some (id : Int)) (f o') Ψ) :
    Run L a ((tick rz id o).bind f) Ψ := by
  have hn : ∀ o', Run L a ((⟨[(id : Int)], .normal, o'⟩ : Res).bind f) Ψ := fun o' =>
    ⟨⟨ha, (hf o').1⟩, (hf o').2⟩
  unfold tick
  cases rz with
  | false => exact hn o
  | true =>
    match o with
    | [] => exact ⟨⟨ha, trivial⟩, fun h => absurd rfl h⟩
    | true :: o' => exact ⟨⟨ha, trivial⟩, fun _ => he rfl⟩
    | false :: o' => exact hn o'

theorem run_step_bind {id : Nat} {o : List Bool} (ha : L a id) (hf : Run L (some (id : Int)) (f o) Ψ) :
    Run L a ((step id o).bind f) Ψ :=
  ⟨⟨ha, hf.1⟩, hf.2⟩

theorem exec_nil (k : Nat) (rz : Bool) (o : List Bool) : exec (k + 1) .stmt rz .nil o = ⟨[], .normal, o⟩ := rfl

/-- definitional; applying it spares `refine` the unification of `Res.bind`'s first argument with a literal -/
theorem run_pure_bind {o : List Bool} (hf : Run L a (f o) Ψ) : Run L a ((⟨[], .normal, o⟩ : Res).bind f) Ψ := hf

theorem run_nil_bind {k : Nat} {rz : Bool} {o : List Bool} (hf : Run L a (f o) Ψ) :
    Run L a ((exec k .stmt rz .nil o).bind f) Ψ := by
  cases k with
  | zero => exact run_stop
  | succ k => exact hf

theorem exec_fall_jump (n : Nat) (ft rz : Bool) (cid : Nat) (d : Bool) (body more : S) (o : List Bool) :
    exec (n + 1) (.fall ft true) rz (.caseS cid d body more) o =
      (step cid o).bind (exec (n + 1) (.fall ft false) rz (.caseS cid d body more)) := rfl

theorem exec_forS_init (n : Nat) (rz : Bool) (id : Nat) (ct : Bool) (init pre upd body rest : S) (o : List Bool) :
    exec (n + 1) .stmt rz (.forS id ct init pre upd body rest) o =
      (exec n .stmt rz init o).bind (exec (n + 1) .stmt rz (.forS id ct .nil pre upd body rest)) := by
  cases n <;> rfl

theorem choose_false {ct : Bool} {o o' : List Bool} (h : choose ct o = some (false, o')) : ct = false := by
  cases ct with
  | false => rfl
  | true => simp [choose] at h

theorem run_choose {ct : Bool} {o : List Bool} {T F : List Bool → Res} (hT : ∀ o', Run L a (T o') Ψ)
    (hF : ct = false → ∀ o', Run L a (F o') Ψ) :
    Run L a (match choose ct o with
      | none => stopRes o
      | some (true, o') => T o'
      | some (false, o') => F o') Ψ := by
  cases hch : choose ct o with
  | none => exact run_stop
  | some p =>
    obtain ⟨b, o'⟩ := p
    cases b with
    | true => exact hT o'
    | false => exact hF (choose_false hch) o'

def Holds (L : Option Int → Int → Prop) (l : List (Int × Int)) : Prop := ∀ e ∈ l, L (some e.1) e.2

/-- a `return` is followed by the exit node `-1`, as normal completion of the method is (`K0`) -/
def K.sel (k : K) : Out → List Int
  | .normal => k.nxt
  | .brk => k.brk
  | .cont => k.cnt
  | .raise => k.exc
  | .ret => [-1]
  | .stop => []

def Post (L : Option Int → Int → Prop) (k : K) (out : Out) (x : Option Int) : Prop := ∀ j ∈ k.sel out, L x j

theorem post_congr {k₁ k₂ : K} {out : Out} {x : Option Int} (hs : k₁.sel out = k₂.sel out)
    (h : Post L k₁ out x) : Post L k₂ out x := by
  unfold Post at h ⊢
  rwa [← hs]

theorem holds_append {l1 l2 : List (Int × Int)} : Holds L (l1 ++ l2) ↔ Holds L l1 ∧ Holds L l2 :=
  List.forall_mem_append

theorem holds_edgesFrom {id : Nat} {succs : List Int} :
    Holds L (edgesFrom id succs) ↔ ∀ j ∈ succs, L (some (id : Int)) j := by
  simp [Holds, edgesFrom]

theorem holds_node {rz : Bool} {k : K} {id : Nat} {succs : List Int} :
    Holds L (node rz k id succs) ↔
      (∀ j ∈ succs, L (some (id : Int)) j) ∧ (rz = true → ∀ j ∈ k.exc, L (some (id : Int)) j) := by
  cases rz <;> simp [node, holds_append, holds_edgesFrom]

theorem K.sel_nxt {k : K} {l : List Int} {out : Out} (h : out ≠ .normal) :
    K.sel ⟨l, k.brk, k.cnt, k.exc⟩ out = k.sel out := by
  cases out with
  | normal => exact absurd rfl h
  | _ => rfl

theorem post_seq {l : List Int} (h : Run L a r (Post L ⟨l, k.brk, k.cnt, k.exc⟩))
    (hf : ∀ x, (∀ j ∈ l, L x j) → ∀ o, Run L x (f o) (Post L k)) : Run L a (r.bind f) (Post L k) :=
  run_bind h (fun hn _ => post_congr (K.sel_nxt hn)) hf

theorem post_afterBody {again exit : List Bool → Res} {hd kr : List Int}
    (h : Run L a r (Post L ⟨hd, kr, hd, k.exc⟩))
    (hagain : ∀ x, (∀ j ∈ hd, L x j) → ∀ o, Run L x (again o) (Post L k))
    (hexit : ∀ x, (∀ j ∈ kr, L x j) → ∀ o, Run L x (exit o) (Post L k)) :
    Run L a (afterBody r again exit) (Post L k) :=
  run_afterBody h (fun x hx => hagain x (hx.elim id id)) hexit (fun _ h => h) (fun _ h => h)

theorem post_jump {kr : List Int} (h : Run L a r (Post L ⟨kr, kr, k.cnt, k.exc⟩))
    (hf : ∀ x, (∀ j ∈ kr, L x j) → ∀ o, Run L x (f o) (Post L k)) :
    Run L a (match r.out with
      | .brk => r.norm.bind f
      | _ => r.bind f) (Post L k) := by
  cases hr : r.out <;> simp only
  case brk => exact run_norm_bind h (by simp [hr]) fun x hx => hf x (by rw [hr] at hx; exact hx)
  case normal => exact run_bind h (fun hn => absurd hr hn) hf
  -- the other outcomes leave `r` as it is, and select `k.cnt`, `k.exc`, `[-1]`, `[]` from both continuations
  case cont | ret | raise | stop => exact run_bind h (fun _ _ => post_congr (by rw [hr]; rfl)) hf

theorem post_node {rz : Bool} {id : Nat} {o : List Bool} {succs : List Int} (ha : L a id)
    (hnode : Holds L (node rz k id succs))
    (hf : (∀ j ∈ succs, L (some (id : Int)) j) → ∀ o', Run L (some (id : Int)) (f o') (Post L k)) :
    Run L a ((tick rz id o).bind f) (Post L k) :=
  run_tick_bind ha (holds_node.1 hnode).2 (hf (holds_node.1 hnode).1)

/-- what a jump to `suf`, a suffix of the case chain `cs`, needs -/
def CaseSuf (L : Option Int → Int → Prop) (suf cs : S) : Prop :=
  isCase suf = true ∧ (∀ j ∈ (caseIds suf).head?, j ∈ caseIds cs) ∧
    ∀ rz ft k, Holds L (req.reqCases rz ft cs k) → Holds L (req.reqCases rz ft suf k)

theorem caseSuf_here {cid : Nat} {d : Bool} {body more : S} :
    CaseSuf L (.caseS cid d body more) (.caseS cid d body more) :=
  ⟨rfl, fun _ hj => Option.some.inj hj ▸ .head _, fun _ _ _ h => h⟩

theorem caseSuf_there {suf more : S} {cid : Nat} {d : Bool} {body : S} (h : CaseSuf L suf more) :
    CaseSuf L suf (.caseS cid d body more) :=
  ⟨h.1, fun j hj => List.mem_cons_of_mem _ (h.2.1 j hj), fun rz ft k hh => h.2.2 rz ft k (by
    unfold req.reqCases at hh; exact (holds_append.1 hh).2)⟩

theorem pick_suf {cs suf : S} {o o' : List Bool} (h : pick cs o = some (some suf, o')) : CaseSuf L suf cs := by
  induction cs generalizing o with
  | caseS cid d body more _ ihm =>
    unfold pick at h
    cases d with
    | true => exact caseSuf_there (ihm h)
    | false =>
      match o with
      | [] => cases h
      | true :: o1 =>
        simp only [Bool.false_eq_true, if_false, Option.some.injEq, Prod.mk.injEq] at h
        exact h.1 ▸ caseSuf_here
      | false :: o1 => exact caseSuf_there (ihm h)
  | _ => cases h

theorem dflt_suf {cs suf : S} (h : dfltSuffix cs = some suf) : CaseSuf L suf cs := by
  induction cs with
  | caseS cid d body more _ ihm =>
    unfold dfltSuffix at h
    cases d with
    | true => exact Option.some.inj h ▸ caseSuf_here
    | false => exact caseSuf_there (ihm h)
  | _ => cases h

theorem dflt_none {cs : S} (h : dfltSuffix cs = none) : hasDefault cs = false := by
  induction cs with
  | caseS cid d body more _ ihm =>
    unfold dfltSuffix at h
    cases d with
    | true => cases h
    | false => exact ihm h
  | _ => rfl

/-- `exec_ok` at fuel `n`, one statement for each mode of `exec` (`StmtOk`, `CatchOk`, `FallOk`) -/
def StmtOk (L : Option Int → Int → Prop) (n : Nat) : Prop :=
  ∀ rz s k, Holds L (req rz s k) → ∀ a, (∀ j ∈ first s k.nxt, L a j) → ∀ o,
    Run L a (exec n .stmt rz s o) (Post L k)

def CatchOk (L : Option Int → Int → Prop) (n : Nat) : Prop :=
  ∀ rz s k, isClause s = true → Holds L (req.reqCatch rz s k) → ∀ a, (∀ j ∈ clauseIds s, L a j) → ∀ o,
    Run L a (exec n .catch rz s o) (Post L k)

def FallOk (L : Option Int → Int → Prop) (n : Nat) : Prop :=
  ∀ rz ft s k, Holds L (req.reqCases rz ft s k) → ∀ a, (∀ j ∈ fallFirst ft s k.nxt, L a j) → ∀ o,
    Run L a (exec n (.fall ft false) rz s o) (Post L k)

theorem run_jump {n : Nat} {rz ft : Bool} {suf cs : S} {o : List Bool} (hF : FallOk L n) (hsuf : CaseSuf L suf cs)
    (hreq : Holds L (req.reqCases rz ft cs k)) (ha : ∀ j ∈ caseIds cs, L a j) :
    Run L a (exec n (.fall ft true) rz suf o) (Post L k) := by
  obtain ⟨hc, hid, hsub⟩ := hsuf
  replace hreq := hsub rz ft k hreq
  cases n with
  | zero => exact run_stop
  | succ n =>
    cases suf with
    | caseS cid d body more =>
      have hcid := hreq
      unfold req.reqCases at hcid
      simp only [holds_append] at hcid
      rw [exec_fall_jump]
      exact run_step_bind (ha cid (hid cid rfl)) (hF rz ft _ k hreq _ (holds_edgesFrom.1 hcid.1.1) o)
    | _ => cases hc

theorem stmtOk_step (n : Nat) (ih : StmtOk L n) (ihC : CatchOk L n) (ihF : FallOk L n) : StmtOk L (n + 1) := by
  intro rz s k hreq a hfirst o
  -- a loop runs its own statement again at fuel `n`: the requirement is kept whole for that
  have hreq0 := hreq
  unfold exec
  unfold req at hreq
  cases s <;> simp only [holds_append] at hreq ⊢
  case nil | clause | caseS => exact run_nil hfirst
  case simple id rest | decl id rest =>
    exact post_node (hfirst id (.head _)) hreq.1 (ih rz rest k hreq.2 _)
  case ifS id thn els rest =>
    obtain ⟨⟨⟨hnode, hthn⟩, hels⟩, hrest⟩ := hreq
    refine post_node (hfirst id (.head _)) hnode fun hl o' => ?_
    match o' with
    | [] => exact run_stop
    | true :: o'' => exact post_seq (ih rz thn _ hthn _ (List.forall_mem_append.1 hl).1 o'') (ih rz rest k hrest)
    | false :: o'' => exact post_seq (ih rz els _ hels _ (List.forall_mem_append.1 hl).2 o'') (ih rz rest k hrest)
  case whileS id ct pre body els rest =>
    obtain ⟨⟨⟨⟨hpre, hnode⟩, hbody⟩, hels⟩, hrest⟩ := hreq
    refine post_seq (ih rz pre _ hpre a hfirst o) fun _ hl0 _ => ?_
    refine post_node (hl0 id (.head _)) hnode fun hl _ => run_choose (fun o'' => ?_) fun hct o'' => ?_
    · exact post_afterBody (ih rz body _ hbody _ (List.forall_mem_append.1 hl).1 o'') (ih rz _ k hreq0)
        (ih rz rest k hrest)
    · subst hct
      exact post_seq (ih rz els _ hels _ (List.forall_mem_append.1 hl).2 o'') (ih rz rest k hrest)
  case doS id ct body pre rest =>
    obtain ⟨⟨⟨hbody, hpre⟩, hnode⟩, hrest⟩ := hreq
    refine post_afterBody (ih rz body _ hbody a hfirst o) (fun a' hl0 o' => ?_) (ih rz rest k hrest)
    refine post_seq (ih rz pre _ hpre a' hl0 o') fun _ hl1 _ => ?_
    refine post_node (hl1 id (.head _)) hnode fun hl _ => run_choose (fun o'' => ?_) fun hct o'' => ?_
    · exact ih rz _ k hreq0 _ (List.forall_mem_append.1 hl).1 o''
    · subst hct
      exact ih rz rest k hrest _ (List.forall_mem_append.1 hl).2 o''
  case forS id ct init pre upd body rest =>
    obtain ⟨⟨⟨⟨⟨hinit, hpre⟩, hnode⟩, hbody⟩, hupd⟩, hrest⟩ := hreq
    -- after update_body the statement runs again without its init block, which requires nothing
    have hreq' : Holds L (req rz (.forS id ct .nil pre upd body rest) k) := by
      unfold req
      simp only [holds_append]
      exact ⟨⟨⟨⟨⟨nofun, hpre⟩, hnode⟩, hbody⟩, hupd⟩, hrest⟩
    refine post_seq (ih rz init _ hinit a hfirst o) fun _ hl0 o' => ?_
    refine post_seq (ih rz pre _ hpre _ hl0 o') fun _ hl1 _ => ?_
    refine post_node (hl1 id (.head _)) hnode fun hl _ => run_choose (fun o'' => ?_) fun hct o'' => ?_
    · exact post_afterBody (ih rz body _ hbody _ (List.forall_mem_append.1 hl).1 o'')
        (fun a' hl' o' => post_seq (ih rz upd _ hupd a' hl' o') (ih rz _ k hreq')) (ih rz rest k hrest)
    · subst hct
      exact ih rz rest k hrest _ (List.forall_mem_append.1 hl).2 o''
  case brk id rest | cont id rest | ret id rest =>
    exact run_one (hfirst id (.head _)) (holds_edgesFrom.1 hreq)
  case classS id flds sinit init methods nested rest =>
    obtain ⟨⟨⟨⟨⟨hnode, hsinit⟩, hinit⟩, hmeth⟩, hnest⟩, hrest⟩ := hreq
    exact post_node (hfirst id (.head _)) hnode fun hl o1 =>
      post_seq (ih rz sinit _ hsinit _ hl o1) fun _ hl1 o2 =>
      post_seq (ih rz init _ hinit _ hl1 o2) fun _ hl2 o3 =>
      post_seq (ih rz methods _ hmeth _ hl2 o3) fun _ hl3 o4 =>
      post_seq (ih rz nested _ hnest _ hl3 o4) (ih rz rest k hrest)
  case tryS id body catches els fin rest =>
    obtain ⟨⟨⟨⟨⟨hid, hbody⟩, hcatch⟩, hels⟩, hfin⟩, hrest⟩ := hreq
    refine run_step_bind (hfirst id (.head _)) ?_
    have htail : ∀ a', (∀ j ∈ first fin (first rest k.nxt), L a' j) → ∀ o',
        Run L a' ((exec n .stmt rz fin o').bind (exec n .stmt rz rest)) (Post L k) := fun a' hl o' =>
      post_seq (ih rz fin _ hfin a' hl o') (ih rz rest k hrest)
    have hB := ih (rz || isClause catches) body _ hbody (some (id : Int)) (holds_edgesFrom.1 hid) o
    generalize exec n .stmt (rz || isClause catches) body o = rb at hB ⊢
    cases hr : rb.out <;> simp only
    case normal =>
      exact run_bind hB (fun hn => absurd hr hn) fun _ hl o' => post_seq (ih rz els _ hels _ hl o') htail
    case raise =>
      -- only a raise the try can catch is not passed on; the body's `exc` set is `clauseIds catches` then
      cases hc : isClause catches <;> simp only [hc, Bool.false_eq_true, if_false, if_true] at hB ⊢
      · exact run_mono hB fun _ => post_congr (by rw [hr]; rfl)
      · refine run_norm_bind hB (by simp [hr]) fun x hx o' => ?_
        rw [hr] at hx
        exact post_seq (ihC rz catches _ hc hcatch _ hx o') htail
    -- the other outcomes are the body's, with the same continuation sets inside and outside the try
    case brk | cont | ret | stop => exact run_mono hB fun _ => post_congr (by rw [hr]; rfl)
  case switchS id ft cases rest =>
    obtain ⟨⟨hnode, hcases⟩, hrest⟩ := hreq
    refine post_node (hfirst id (.head _)) hnode fun hl o1 => ?_
    have hjump : ∀ suf o', CaseSuf L suf cases → Run L (some (id : Int)) _ (Post L k) := fun suf o' hsuf =>
      post_jump (run_jump (o := o') ihF hsuf hcases fun j hj => hl j (List.mem_append_left _ hj)) (ih rz rest k hrest)
    cases hp : pick cases o1 with
    | none => exact run_stop
    | some p =>
      obtain ⟨osuf, o2⟩ := p
      cases osuf with
      | some suf => exact hjump suf o2 (pick_suf hp)
      | none =>
        simp only
        cases hd : dfltSuffix cases with
        | some suf => exact hjump suf o2 (dflt_suf hd)
        | none =>
          refine ih rz rest k hrest _ (fun j hj => hl j (List.mem_append_right _ ?_)) o2
          simpa [dflt_none hd] using hj

theorem catchOk_step (n : Nat) (ih : StmtOk L n) (ihC : CatchOk L n) : CatchOk L (n + 1) := by
  intro rz s k hcl hreq a hl o
  cases s with
  | clause cid body more =>
    unfold exec
    unfold req.reqCatch at hreq
    simp only [holds_append] at hreq
    obtain ⟨⟨hcid, hbody⟩, hmore⟩ := hreq
    have hthis : ∀ o', Run L a ((step cid o').bind (exec n .stmt rz body)) (Post L k) := fun o' =>
      run_step_bind (hl cid (.head _)) (ih rz body k hbody _ (holds_edgesFrom.1 hcid) o')
    cases hm : isClause more <;> simp only [hm, Bool.false_eq_true, if_false, if_true]
    · exact hthis o
    · match o with
      | [] => exact run_stop
      | true :: o' => exact hthis o'
      | false :: o' => exact ihC rz more k hm hmore a (fun j hj => hl j (List.mem_cons_of_mem _ hj)) o'
  | _ => cases hcl

theorem fallOk_step (n : Nat) (ih : StmtOk L n) (ihF : FallOk L n) : FallOk L (n + 1) := by
  intro rz ft s k hreq a hl o
  cases s with
  | caseS cid d body more =>
    unfold exec
    unfold req.reqCases at hreq
    simp only [Bool.false_eq_true, if_false]
    simp only [holds_append] at hreq
    refine run_pure_bind (post_seq (ih rz body _ hreq.1.2 a hl o) fun _ hl2 o2 => ?_)
    cases hft : (ft || body.isNil) <;> simp only [hft, Bool.false_eq_true, if_false, if_true] at hl2 ⊢
    · exact run_nil hl2
    · exact ihF rz ft more k hreq.2 _ hl2 o2
  | _ => exact run_nil hl

theorem exec_ok : ∀ n, StmtOk L n ∧ CatchOk L n ∧ FallOk L n := by
  intro n
  induction n with
  | zero => exact ⟨fun _ _ _ _ _ _ _ => run_stop, fun _ _ _ _ _ _ _ _ => run_stop, fun _ _ _ _ _ _ _ _ => run_stop⟩
  | succ n ih => exact ⟨stmtOk_step n ih.1 ih.2.1 ih.2.2, catchOk_step n ih.1 ih.2.1, fallOk_step n ih.1 ih.2.2⟩

theorem run_post (params body : S) (hreq : Holds L (reqM params body))
    (a : Option Int) (ha : ∀ j ∈ entries params body, L a j) (n : Nat) (o : List Bool) :
    Run L a (runCtl n params body o) (Post L K0) :=
  post_seq ((exec_ok n).1 false params _ (holds_append.1 hreq).1 a ha o)
    ((exec_ok n).1 false body K0 (holds_append.1 hreq).2)

end LianVerif.Cfg
