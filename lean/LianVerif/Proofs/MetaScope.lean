/-
C12 (renumbering, construction of the scope tables): `discover_scopes`, `determine_scope`,
`correct_scopes` commute with every strictly monotone renumbering of statement ids that fixes 0.
-/
import LianVerif.Model.Meta
import LianVerif.Proofs.MetaResolver

namespace LianVerif.Meta
open LianVerif.Scopes

def mapRec (ρ : Nat → Nat) (r : ScopeRec) : ScopeRec :=
  { stmt := ρ r.stmt, scope := mapInt ρ r.scope, parent := mapInt ρ r.parent, kind := r.kind }

def mapCache (ρ : Nat → Nat) (c : Cache) : Cache := c.map (fun p => (ρ p.1, ρ p.2))

def mapDState (ρ : Nat → Nat) (st : DState) : DState :=
  { recs := st.recs.map (mapRec ρ), all := st.all.map ρ, cache := mapCache ρ st.cache }

variable {ρ : Nat → Nat}

theorem rowOf_map (h : Mono ρ) (rows : List Shape) (id : Nat) :
    rowOf (rows.map (mapShape ρ)) (ρ id) = (rowOf rows id).map (mapShape ρ) :=
  find?_key_map (key := Shape.id) (key' := Shape.id) _ (fun _ => rfl) h.beq rows id

theorem cacheGet_map (h : Mono ρ) (c : Cache) (k : Nat) :
    Cache.get (mapCache ρ c) (ρ k) = (Cache.get c k).map ρ := by
  unfold Cache.get mapCache
  rw [find?_key_map (key := fun p : Nat × Nat => p.1) (key' := fun p : Nat × Nat => p.1) _
    (fun _ => rfl) h.beq, Option.map_map, Option.map_map]
  rfl

theorem determine_map (h : Mono ρ) (rows : List Shape) (all : List Nat) :
    ∀ (fuel : Nat) (c : Cache) (stmt : Nat),
      determine (rows.map (mapShape ρ)) (all.map ρ) fuel (mapCache ρ c) (ρ stmt) =
        (ρ (determine rows all fuel c stmt).1, mapCache ρ (determine rows all fuel c stmt).2) := by
  intro fuel
  induction fuel with
  | zero => intro c stmt; rw [determine, determine, h.zero]
  | succ f ih =>
    intro c stmt
    rw [determine, determine, h.eq_zero, cacheGet_map h, rowOf_map h]
    by_cases h0 : (stmt == 0) = true
    · rw [if_pos h0, if_pos h0, h.zero]
    · rw [if_neg h0, if_neg h0]
      cases Cache.get c stmt with
      | some r => rfl
      | none =>
        cases rowOf rows stmt with
        | none => simp only [Option.map_none, h.zero]
        | some row =>
          simp only [Option.map_none, Option.map_some, mapShape, contains_map h]
          split
          · rfl
          · rw [ih]; rfl

theorem insertSorted_map (h : Mono ρ) (x : Nat) : ∀ (l : List Nat),
    insertSorted (ρ x) (l.map ρ) = (insertSorted x l).map ρ := by
  intro l
  induction l with
  | nil => rfl
  | cons y ys ih =>
    simp only [List.map_cons, insertSorted, h.lt_iff, h.beq, ih]
    split
    · rfl
    · split <;> rfl

theorem sortedIds_map (h : Mono ρ) (rows : List Shape) :
    sortedIds (rows.map (mapShape ρ)) = (sortedIds rows).map ρ :=
  foldl_map_comm (mapShape ρ) (List.map ρ) (fun acc r => insertSorted_map h r.id acc) rows []

theorem discoverStep_map (h : Mono ρ) (t : OpTable) (rows : List Shape) (fuel : Nat) (st : DState) (id : Nat) :
    discoverStep t (rows.map (mapShape ρ)) fuel (mapDState ρ st) (ρ id) =
      mapDState ρ (discoverStep t rows fuel st id) := by
  unfold discoverStep
  rw [rowOf_map h]
  cases rowOf rows id with
  | none => rfl
  | some row =>
    dsimp only [Option.map_some, mapShape, mapDState]
    rw [determine_map h]
    generalize determine rows st.all fuel st.cache row.parent = d
    obtain ⟨sc, c⟩ := d
    cases classify t row.op with
    | caseAs =>
      -- a `case … as name` declares the name in the body block, or in no scope (`-2`) without a body
      cases row.hasName
      · rfl
      · cases row.body with
        | none => simp only [if_true, Option.map_none, mapRec, mapInt_cast, List.map_append, List.map_cons,
            List.map_nil]; rfl
        | some b => simp only [if_true, Option.map_some, mapRec, mapInt_cast, List.map_append, List.map_cons,
            List.map_nil]
    | _ =>
      -- every other kind appends one entry whose scope is `determine` of the parent (or only memoises it)
      simp only [mapRec, mapCache, List.map_append, List.map_cons, List.map_nil, mapInt_cast,
        Bool.false_eq_true, if_false, if_true]

theorem discover_map (h : Mono ρ) (t : OpTable) (rows : List Shape) :
    discover t (rows.map (mapShape ρ)) = mapDState ρ (discover t rows) := by
  unfold discover
  rw [sortedIds_map h, List.length_map]
  have hinit : ({ recs := [rootRec], all := [0], cache := [] } : DState) =
      mapDState ρ { recs := [rootRec], all := [0], cache := [] } := by
    simp only [mapDState, mapRec, rootRec, List.map_cons, List.map_nil, h.zero, mapCache, mapInt_neg_one]
  exact (congrArg (fun s => List.foldl _ s _) hinit).trans
    (foldl_map_comm ρ (mapDState ρ) (discoverStep_map h t rows _) _ _)

theorem blockRows_map (h : Mono ρ) (rows : List Shape) (b : Nat) :
    blockRows (rows.map (mapShape ρ)) (ρ b) = (blockRows rows b).map (mapShape ρ) := by
  have hp : ∀ op, ((fun r : Shape => r.id == ρ b && r.op == op) ∘ mapShape ρ) = fun r => r.id == b && r.op == op :=
    fun op => funext fun r => by simp only [Function.comp, mapShape, h.beq]
  have hn : ∀ op, ((fun r : Shape => !(r.id == ρ b && r.op == op)) ∘ mapShape ρ) =
      fun r => !(r.id == b && r.op == op) :=
    fun op => funext fun r => by simp only [Function.comp, mapShape, h.beq]
  unfold blockRows
  simp only [List.dropWhile_map, List.takeWhile_map, List.any_map, ← List.map_drop, hp, hn]
  split <;> rfl

theorem blockIds_map (h : Mono ρ) (rows : List Shape) (b : Nat) (p p' : Shape → Bool)
    (hp : ∀ r, p' (mapShape ρ r) = p r) :
    ((blockRows (rows.map (mapShape ρ)) (ρ b)).filter p').map (·.id) =
      (((blockRows rows b).filter p).map (·.id)).map ρ := by
  rw [blockRows_map h, List.filter_map, List.map_map, List.map_map, show p' ∘ mapShape ρ = p from funext hp]
  rfl

theorem setScope_map (h : Mono ρ) (id sc : Nat) : ∀ (recs : List ScopeRec),
    setScope (recs.map (mapRec ρ)) (ρ id) (ρ sc) = (setScope recs id sc).map (mapRec ρ) := by
  intro recs
  induction recs with
  | nil => rfl
  | cons r rs ih =>
    simp only [List.map_cons, setScope, mapRec, h.beq, ih]
    split
    · simp only [List.map_cons, mapRec, mapInt_cast]
    · rfl

theorem rehome_map (h : Mono ρ) (sc : Nat) (ids : List Nat) (st : DState) :
    rehome (mapDState ρ st) (ids.map ρ) (ρ sc) = mapDState ρ (rehome st ids sc) :=
  foldl_map_comm ρ (mapDState ρ)
    (fun s i => by simp only [mapDState, setScope_map h, mapCache, List.map_cons]) ids st

theorem correctClassG_map (h : Mono ρ) (direct : Bool) (rows : List Shape) (st : DState) (cid : Nat) :
    correctClassG direct (rows.map (mapShape ρ)) (mapDState ρ st) (ρ cid) =
      mapDState ρ (correctClassG direct rows st cid) := by
  have hv := blockIds_map h rows (p := fun r => r.op == "variable_decl") (p' := fun r => r.op == "variable_decl")
  have hm := fun b => blockIds_map h rows b (fun r => r.op == "method_decl" && r.parent == b)
    (fun r => r.op == "method_decl" && r.parent == ρ b) (fun r => by simp only [mapShape, h.beq])
  have hc := fun b => blockIds_map h rows b (fun r => r.op == "class_decl" && (!direct || r.parent == b))
    (fun r => r.op == "class_decl" && (!direct || r.parent == ρ b)) (fun r => by simp only [mapShape, h.beq])
  unfold correctClassG
  rw [rowOf_map h]
  cases rowOf rows cid with
  | none => rfl
  | some c =>
    -- the `let`s stay: unfolded, each state would stand in both branches of the next match
    simp -zeta only [Option.map_some, mapShape, idsWithOp]
    -- the three block references are independent: each one that is present re-homes its ids
    cases c.fields <;> cases c.methods <;> cases c.nested <;>
      simp only [Option.map_some, Option.map_none, hv _ fun _ => rfl, hm, hc, rehome_map h]

/-- `correctMethod` and `correctInit`: one block reference `ref`, one operation. -/
theorem correctOne_map (h : Mono ρ) (rows : List Shape) (st : DState) (sid : Nat) (op : String)
    (ref : Shape → Option Nat) (href : ∀ r, ref (mapShape ρ r) = (ref r).map ρ) :
    (match rowOf (rows.map (mapShape ρ)) (ρ sid) with
      | none => mapDState ρ st
      | some s => match ref s with
        | some b => rehome (mapDState ρ st) (idsWithOp (blockRows (rows.map (mapShape ρ)) b) op) (ρ sid)
        | none => mapDState ρ st) =
    mapDState ρ (match rowOf rows sid with
      | none => st
      | some s => match ref s with
        | some b => rehome st (idsWithOp (blockRows rows b) op) sid
        | none => st) := by
  rw [rowOf_map h]
  cases rowOf rows sid with
  | none => rfl
  | some m =>
    simp only [Option.map_some, href]
    cases ref m with
    | none => rfl
    | some b =>
      simp only [Option.map_some, idsWithOp,
        blockIds_map h rows b (fun r => r.op == op) (fun r => r.op == op) fun _ => rfl, rehome_map h]

theorem correctMethod_map (h : Mono ρ) (rows : List Shape) (st : DState) (mid : Nat) :
    correctMethod (rows.map (mapShape ρ)) (mapDState ρ st) (ρ mid) = mapDState ρ (correctMethod rows st mid) :=
  correctOne_map h rows st mid "parameter_decl" Shape.parameters fun _ => rfl

theorem correctInit_map (h : Mono ρ) (rows : List Shape) (st : DState) (sid : Nat) :
    correctInit (rows.map (mapShape ρ)) (mapDState ρ st) (ρ sid) = mapDState ρ (correctInit rows st sid) :=
  correctOne_map h rows st sid "variable_decl" Shape.initBody fun _ => rfl

theorem stmtsOfKind_map (st : DState) (k : SKind) :
    stmtsOfKind (mapDState ρ st) k = (stmtsOfKind st k).map ρ := by
  unfold stmtsOfKind mapDState
  rw [List.filter_map, List.map_map, List.map_map]
  rfl

theorem correctG_map (h : Mono ρ) (direct : Bool) (rows : List Shape) (st : DState) :
    correctG direct (rows.map (mapShape ρ)) (mapDState ρ st) = mapDState ρ (correctG direct rows st) := by
  unfold correctG
  simp only [stmtsOfKind_map, foldl_map_comm ρ (mapDState ρ) (correctClassG_map h direct rows),
    foldl_map_comm ρ (mapDState ρ) (correctMethod_map h rows),
    foldl_map_comm ρ (mapDState ρ) (correctInit_map h rows)]

/-- `scopeTable` is `direct = true`, `scopeTable0` is `direct = false`. -/
theorem scopeTableG_map (h : Mono ρ) (direct : Bool) (t : OpTable) (rows : List Shape) :
    correctG direct (rows.map (mapShape ρ)) (discover t (rows.map (mapShape ρ))) =
      mapDState ρ (correctG direct rows (discover t rows)) := by
  rw [discover_map h, correctG_map h]

end LianVerif.Meta
