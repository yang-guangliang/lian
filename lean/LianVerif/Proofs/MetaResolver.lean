/-
C12 (renumbering): `resolve_symbol_source_decl` — "max of the intersection" — and the def-use rule
commute with every strictly monotone renumbering of statement ids that fixes 0.

The pipeline uses statement ids through `=`, `<` and the sign test only.  What these do under a
renumbering `ρ` (on `Nat` ids) and `mapInt ρ` (on `Int` scopes, where negatives are sentinels) is stated
once here; every table lookup of the models is `find?` on a key, which `find?_key_map` moves through
the renumbering.
-/
import LianVerif.Model.Meta
import LianVerif.Proofs.Resolver
import LianVerif.Proofs.ListAux

namespace LianVerif.Meta
open LianVerif.Scopes LianVerif.Resolver

/-- what inserting statements does to the ids of the other statements -/
structure Mono (ρ : Nat → Nat) : Prop where
  lt : ∀ a b, a < b → ρ a < ρ b
  zero : ρ 0 = 0

theorem Mono.lt_iff {ρ : Nat → Nat} (h : Mono ρ) {a b : Nat} : ρ a < ρ b ↔ a < b := by
  refine ⟨fun hlt => ?_, h.lt a b⟩
  rcases Nat.lt_trichotomy a b with h1 | h1 | h1
  · exact h1
  · rw [h1] at hlt; exact absurd hlt (Nat.lt_irrefl _)
  · exact absurd hlt (Nat.lt_asymm (h.lt b a h1))

theorem Mono.injective {ρ : Nat → Nat} (h : Mono ρ) : Function.Injective ρ := fun a b hab => by
  have h1 := h.lt_iff (a := a) (b := b)
  have h2 := h.lt_iff (a := b) (b := a)
  omega

theorem Mono.beq {ρ : Nat → Nat} (h : Mono ρ) (a b : Nat) : (ρ a == ρ b) = (a == b) :=
  beq_inj ρ h.injective a b

theorem Mono.eq_zero {ρ : Nat → Nat} (h : Mono ρ) (a : Nat) : (ρ a == 0) = (a == 0) := by
  rw [← h.beq a 0, h.zero]

theorem Mono.pos {ρ : Nat → Nat} (h : Mono ρ) {a : Nat} (ha : 0 < a) : 0 < ρ a := by
  have := h.lt 0 a ha; rw [h.zero] at this; exact this

theorem mapInt_nonneg {ρ : Nat → Nat} {i : Int} (hi : 0 ≤ i) : mapInt ρ i = (ρ i.toNat : Int) := by
  unfold mapInt; rw [if_pos hi]

theorem mapInt_neg {ρ : Nat → Nat} {i : Int} (hi : ¬ 0 ≤ i) : mapInt ρ i = i := by
  unfold mapInt; rw [if_neg hi]

theorem mapInt_cast (ρ : Nat → Nat) (n : Nat) : mapInt ρ (n : Int) = (ρ n : Int) := by
  rw [mapInt_nonneg (Int.natCast_nonneg n), Int.toNat_natCast]

theorem mapInt_neg_one (ρ : Nat → Nat) : mapInt ρ (-1) = -1 := mapInt_neg (by decide)

theorem mapInt_zero {ρ : Nat → Nat} (h : Mono ρ) : mapInt ρ 0 = 0 := by
  rw [← Int.natCast_zero, mapInt_cast, h.zero]

theorem mapInt_nonneg_iff (ρ : Nat → Nat) (i : Int) : 0 ≤ mapInt ρ i ↔ 0 ≤ i := by
  by_cases hi : 0 ≤ i
  · rw [mapInt_nonneg hi]; exact ⟨fun _ => hi, fun _ => Int.natCast_nonneg _⟩
  · rw [mapInt_neg hi]

theorem mapInt_toNat {ρ : Nat → Nat} {i : Int} (hi : 0 ≤ i) : (mapInt ρ i).toNat = ρ i.toNat := by
  rw [mapInt_nonneg hi, Int.toNat_natCast]

theorem mapInt_eq_neg_one {ρ : Nat → Nat} (i : Int) : (mapInt ρ i == -1) = (i == -1) := by
  by_cases hi : 0 ≤ i
  · rw [beq_eq_false_iff_ne.2 (ne_neg_one_of_nonneg ((mapInt_nonneg_iff ρ i).2 hi)),
      beq_eq_false_iff_ne.2 (ne_neg_one_of_nonneg hi)]
  · rw [mapInt_neg hi]

theorem mapInt_lt {ρ : Nat → Nat} (h : Mono ρ) {i j : Int} (hij : i < j) : mapInt ρ i < mapInt ρ j := by
  by_cases hi : 0 ≤ i
  · rw [mapInt_nonneg hi, mapInt_nonneg (Int.le_trans hi (Int.le_of_lt hij))]
    exact Int.ofNat_lt.2 (h.lt _ _ ((Int.toNat_lt_toNat (Int.lt_of_le_of_lt hi hij)).2 hij))
  · have := (mapInt_nonneg_iff ρ j)
    rw [mapInt_neg hi]
    by_cases hj : 0 ≤ j
    · exact Int.lt_of_lt_of_le (Int.not_le.1 hi) (this.2 hj)
    · rwa [mapInt_neg hj]

theorem mapInt_injective {ρ : Nat → Nat} (hinj : Function.Injective ρ) : Function.Injective (mapInt ρ) := by
  intro i j hij
  have hi := mapInt_nonneg_iff ρ i
  have hj := mapInt_nonneg_iff ρ j
  by_cases h0 : 0 ≤ i
  · have h1 : 0 ≤ j := hj.1 (hij ▸ hi.2 h0)
    rw [mapInt_nonneg h0, mapInt_nonneg h1] at hij
    have := hinj (Int.ofNat_inj.1 hij)
    omega
  · have h1 : ¬ 0 ≤ j := fun h => h0 (hi.1 (hij ▸ hj.2 h))
    rwa [mapInt_neg h0, mapInt_neg h1] at hij

theorem mapInt_beq {ρ : Nat → Nat} (h : Mono ρ) (i j : Int) : (mapInt ρ i == mapInt ρ j) = (i == j) :=
  beq_inj _ (mapInt_injective h.injective) i j

theorem mapInt_le {ρ : Nat → Nat} (h : Mono ρ) {i j : Int} (hij : i ≤ j) : mapInt ρ i ≤ mapInt ρ j := by
  rcases Int.lt_or_eq_of_le hij with h1 | rfl
  · exact Int.le_of_lt (mapInt_lt h h1)
  · exact Int.le_refl _

theorem mapInt_le_zero {ρ : Nat → Nat} (h : Mono ρ) (t : Int) : mapInt ρ t ≤ 0 ↔ t ≤ 0 := by
  have h0 := mapInt_zero h
  exact ⟨fun hle => Int.not_lt.1 fun hlt => Int.not_lt.2 hle (h0 ▸ mapInt_lt h hlt),
    fun hle => h0 ▸ mapInt_le h hle⟩

theorem contains_map_inj {α β : Type} [BEq α] [BEq β] [LawfulBEq α] [LawfulBEq β] (f : α → β)
    (hf : ∀ a b, f a = f b → a = b) (l : List α) (x : α) : (l.map f).contains (f x) = l.contains x := by
  induction l with
  | nil => rfl
  | cons a as ih =>
    simp only [List.map_cons, List.contains_cons, ih]
    congr 1
    rw [Bool.eq_iff_iff, beq_iff_eq, beq_iff_eq]
    exact ⟨hf _ _, congrArg f⟩

theorem contains_map {ρ : Nat → Nat} (h : Mono ρ) (l : List Nat) (x : Nat) :
    (l.map ρ).contains (ρ x) = l.contains x :=
  contains_map_inj ρ (fun _ _ e => h.injective e) l x

theorem containsInt_map {ρ : Nat → Nat} (h : Mono ρ) (l : List Int) (x : Int) :
    (l.map (mapInt ρ)).contains (mapInt ρ x) = l.contains x :=
  contains_map_inj (mapInt ρ) (fun _ _ e => mapInt_injective h.injective e) l x

theorem find?_key_map {α β κ κ' : Type} [BEq κ] [BEq κ'] (f : α → β) {key : α → κ} {key' : β → κ'}
    {g : κ → κ'} (hkey : ∀ a, key' (f a) = g (key a)) (hg : ∀ a b, (g a == g b) = (a == b))
    (l : List α) (k : κ) :
    (l.map f).find? (fun b => key' b == g k) = (l.find? (fun a => key a == k)).map f := by
  rw [List.find?_map]
  congr 2
  funext a
  simp only [Function.comp, hkey, hg]

theorem foldl_map_comm {α β σ τ : Type} (r : α → β) (m : σ → τ) {f : σ → α → σ} {g : τ → β → τ}
    (H : ∀ s a, g (m s) (r a) = m (f s a)) (l : List α) (s : σ) :
    (l.map r).foldl g (m s) = m (l.foldl f s) := by
  rw [List.foldl_map]
  exact List.foldl_hom m H

theorem maxInt_map {ρ : Nat → Nat} (h : Mono ρ) (l : List Int) :
    maxInt (l.map (mapInt ρ)) = (maxInt l).map (mapInt ρ) := by
  cases hm : maxInt l with
  | none => rw [maxInt_eq_none.1 hm]; rfl
  | some m =>
    obtain ⟨hmem, hle⟩ := maxInt_some hm
    refine maxInt_eq_some (List.mem_map_of_mem hmem) fun y hy => ?_
    obtain ⟨x, hx, rfl⟩ := List.mem_map.1 hy
    exact mapInt_le h (hle x hx)

variable {ν : Type} [DecidableEq ν]

theorem declScopes_mapDecl (ρ : Nat → Nat) (ds : List (Decl ν)) (n : ν) :
    declScopes (ds.map (mapDecl ρ)) n = (declScopes ds n).map (mapInt ρ) := by
  unfold declScopes
  rw [List.filter_map, List.map_map, List.map_map]
  rfl

theorem symbolInfo_mapDecl {ρ : Nat → Nat} (h : Mono ρ) (ds : List (Decl ν)) (sc : Int) (n : ν) :
    symbolInfo (ds.map (mapDecl ρ)) (mapInt ρ sc) n = (symbolInfo ds sc n).map (mapDecl ρ) := by
  unfold symbolInfo
  rw [List.filter_map, List.getLast?_map]
  simp only [Function.comp_def, mapDecl, mapInt_beq h]

/-- the renumbering of a visible-scope table, as `mapSummary` applies it. -/
def mapAvail (ρ : Nat → Nat) (a : Avail) : Avail := a.map (fun p => (ρ p.1, p.2.map (mapInt ρ)))

theorem mapAvail_get {ρ : Nat → Nat} (h : Mono ρ) (a : Avail) (k : Nat) :
    Avail.get (mapAvail ρ a) (ρ k) = (Avail.get a k).map (List.map (mapInt ρ)) := by
  unfold Avail.get mapAvail
  rw [find?_key_map (key := fun p : Nat × List Int => p.1) (key' := fun p : Nat × List Int => p.1) _
    (fun _ => rfl) h.beq, Option.map_map, Option.map_map]
  rfl

omit [DecidableEq ν] in
theorem mapSummary_decls (ρ : Nat → Nat) (S : Summary ν) : (mapSummary ρ S).decls = S.decls.map (mapDecl ρ) := rfl
omit [DecidableEq ν] in
theorem mapSummary_avail (ρ : Nat → Nat) (S : Summary ν) : (mapSummary ρ S).avail = mapAvail ρ S.avail := rfl
omit [DecidableEq ν] in
theorem mapSummary_implicit (ρ : Nat → Nat) (S : Summary ν) :
    (mapSummary ρ S).implicit = S.implicit.map (mapInt ρ) := rfl

theorem targets_mapSummary {ρ : Nat → Nat} (h : Mono ρ) (S : Summary ν) (cur : Int) (n : ν) :
    targets (mapSummary ρ S) (mapInt ρ cur) n = (targets S cur n).map (mapInt ρ) := by
  have hvis : (if 0 ≤ mapInt ρ cur then ((mapSummary ρ S).avail.get (mapInt ρ cur).toNat).getD [] else []) =
      (if 0 ≤ cur then (S.avail.get cur.toNat).getD [] else []).map (mapInt ρ) := by
    simp only [mapInt_nonneg_iff]
    split
    · rename_i hc
      rw [mapInt_toNat hc, mapSummary_avail, mapAvail_get h]
      exact Option.getD_map (List.map _) [] _
    · rfl
  unfold targets
  rw [hvis, mapSummary_implicit, ← List.map_append,
    List.filter_map, mapSummary_decls, declScopes_mapDecl]
  simp only [Function.comp_def, containsInt_map h]

theorem resolveDecl_mapSummary {ρ : Nat → Nat} (h : Mono ρ) (S : Summary ν) (cur : Int) (n : ν) :
    resolveDecl (mapSummary ρ S) (mapInt ρ cur) n = (resolveDecl S cur n).map (mapDecl ρ) := by
  unfold resolveDecl
  rw [mapInt_eq_neg_one, targets_mapSummary h, maxInt_map h]
  split
  · rfl
  · cases maxInt (targets S cur n) with
    | none => rfl
    | some m => exact symbolInfo_mapDecl h S.decls m n

theorem resolveGlobal_mapSummary {ρ : Nat → Nat} (h : Mono ρ) (S : Summary ν) (n : ν) :
    resolveGlobal (mapSummary ρ S) n = (resolveGlobal S n).map (mapDecl ρ) := by
  have hc := containsInt_map h (declScopes S.decls n) 0
  have hs := symbolInfo_mapDecl h S.decls 0 n
  rw [mapInt_zero h] at hc hs
  unfold resolveGlobal
  rw [mapSummary_decls, declScopes_mapDecl, hc, hs]
  split <;> rfl

theorem bind_mapSummary {ρ : Nat → Nat} (h : Mono ρ) (S : Summary ν) (ss ss' : Nat → Int) (stmt : Nat)
    (hss : ss' (ρ stmt) = mapInt ρ (ss stmt)) (n : ν) (mode : Mode) :
    Resolver.bind (mapSummary ρ S) ss' (ρ stmt) n mode = (Resolver.bind S ss stmt n mode).map (mapDecl ρ) := by
  cases mode with
  | global => exact resolveGlobal_mapSummary h S n
  | use =>
    rw [bind_use, bind_use, hss, resolveDecl_mapSummary h, Option.filter_map,
      show ((fun d : Decl ν => !(d.stmt == ρ stmt)) ∘ mapDecl ρ) = fun d => !(d.stmt == stmt) from
        funext fun d => congrArg not (h.beq d.stmt stmt)]

end LianVerif.Meta
