/-
Proofs/Aref.lean — soundness of the reference abstract interpreter `Aref.exec` against the collecting
semantics `Collect.runs`, for every sound abstract binary operation.
-/
import LianVerif.Spec.Collect

namespace LianVerif.ArefProofs
open LianVerif.PyStrLit LianVerif.Aref LianVerif.Collect

theorem mem_union {A B : ASet} {a : AVal} : a ∈ union A B ↔ a ∈ A ∨ a ∈ B := by
  by_cases h : a ∈ A <;> simp [union, h]

theorem covers_mono {A B : ASet} {v : CVal} (h : ∀ a ∈ A, a ∈ B) : covers A v → covers B v :=
  Or.imp (h _) (by cases v <;> exact h _)

theorem covers_union_left {A B : ASet} {v : CVal} : covers A v → covers (union A B) v :=
  covers_mono (fun _ ha => mem_union.2 (Or.inl ha))

theorem covers_union_right {A B : ASet} {v : CVal} : covers B v → covers (union A B) v :=
  covers_mono (fun _ ha => mem_union.2 (Or.inr ha))

theorem covers_const (c : PyVal) : covers [.const c] (.prim c) := Or.inr (List.mem_singleton.2 rfl)

theorem covers_obj (s : Site) : covers [.obj s] (.ref s) := Or.inr (List.mem_singleton.2 rfl)

theorem eq_of_covers_obj {s s' : Site} (h : covers [.obj s] (.ref s')) : s' = s := by
  simpa [covers] using h

def ABinSound (ab : ABin) : Prop :=
  ∀ op A B r a b v, ab op A B = some r → covers A a → covers B b → cBin op a b = some v → covers r v

def RelV (A : Option ASet) (v : Option CVal) : Prop := ∀ c, v = some c → ∃ S, A = some S ∧ covers S c

def Rel (σ : AEnv) (ρ : CEnv) : Prop := (∀ x, RelV (σ.vars x) (ρ.vars x)) ∧ (∀ h, RelV (σ.heap h) (ρ.heap h))

theorem relV_getD {A : Option ASet} {v : Option CVal} {c : CVal} (h : RelV A v) (hv : v = some c) :
    covers (A.getD [.unknown]) c := by
  obtain ⟨S, rfl, hc⟩ := h c hv
  exact hc

theorem cupd_same {κ : Type} [DecidableEq κ] (m : κ → Option CVal) (k : κ) (v : CVal) : cupd m k v k = some v :=
  if_pos rfl

theorem cupd_other {κ : Type} [DecidableEq κ] (m : κ → Option CVal) {k k' : κ} (v : CVal) (h : k' ≠ k) :
    cupd m k v k' = m k' :=
  if_neg h

theorem upd_same {κ : Type} [DecidableEq κ] (m : κ → Option ASet) (k : κ) (v : ASet) : upd m k v k = some v :=
  if_pos rfl

theorem upd_other {κ : Type} [DecidableEq κ] (m : κ → Option ASet) {k k' : κ} (v : ASet) (h : k' ≠ k) :
    upd m k v k' = m k' :=
  if_neg h

theorem relV_upd {κ : Type} [DecidableEq κ] {m : κ → Option ASet} {c : κ → Option CVal} {k : κ} {S : ASet} {v : CVal}
    (h : ∀ x, RelV (m x) (c x)) (hc : covers S v) : ∀ x, RelV (upd m k S x) (cupd c k v x) := by
  intro x w hw
  by_cases hx : x = k
  · subst hx
    rw [cupd_same] at hw
    cases hw
    exact ⟨S, upd_same .., hc⟩
  · rw [cupd_other _ _ hx] at hw
    rw [upd_other _ _ hx]
    exact h x w hw

theorem relV_join_left {κ : Type} {a b : κ → Option ASet} {c : κ → Option CVal}
    (h : ∀ x, RelV (a x) (c x)) : ∀ x, RelV (joinMap a b x) (c x) := by
  intro x w hw
  obtain ⟨S, hS, hc⟩ := h x w hw
  unfold joinMap
  rw [hS]
  cases b x with
  | none => exact ⟨S, rfl, hc⟩
  | some B => exact ⟨union S B, rfl, covers_union_left hc⟩

theorem relV_join_right {κ : Type} {a b : κ → Option ASet} {c : κ → Option CVal}
    (h : ∀ x, RelV (b x) (c x)) : ∀ x, RelV (joinMap a b x) (c x) := by
  intro x w hw
  obtain ⟨S, hS, hc⟩ := h x w hw
  unfold joinMap
  rw [hS]
  cases a x with
  | none => exact ⟨S, rfl, hc⟩
  | some A => exact ⟨union A S, rfl, covers_union_right hc⟩

theorem covers_evalH {env : Var → Option ASet} {envC : Var → Option CVal} (h : ∀ y, RelV (env y) (envC y))
    {o : Opnd} {v : CVal} (hv : evalHC envC o = some v) : covers (evalH env o) v := by
  cases o with
  | var y => exact relV_getD (h y) hv
  | const c => cases hv; exact covers_const c

theorem rel_get {σ : AEnv} {ρ : CEnv} (h : Rel σ ρ) {x : Var} {v : CVal} (hv : ρ.get x = some v) :
    covers (σ.get x) v :=
  relV_getD (h.1 x) hv

theorem rel_evalOpnd {σ : AEnv} {ρ : CEnv} (h : Rel σ ρ) {a : Opnd} {v : CVal} (hv : evalC ρ a = some v) :
    covers (evalOpnd σ a) v := by
  cases a with
  | var x => exact rel_get h hv
  | const c => cases hv; exact covers_const c

theorem rel_mk {v : Var → Option ASet} {h : Site × String → Option ASet} {vC : Var → Option CVal}
    {hC : Site × String → Option CVal} (h1 : ∀ x, RelV (v x) (vC x)) (h2 : ∀ k, RelV (h k) (hC k)) :
    Rel ⟨v, h⟩ ⟨vC, hC⟩ :=
  ⟨h1, h2⟩

theorem rel_set {σ : AEnv} {ρ : CEnv} (h : Rel σ ρ) {x : Var} {S : ASet} {v : CVal} (hc : covers S v) :
    Rel (σ.set x S) (ρ.set x v) :=
  ⟨relV_upd h.1 hc, h.2⟩

/-- membership, not position: `run` merges the abstract log per key afterwards (`mem_mergeLog`). -/
def LogCovered (alog : Log) (clog : CLog) : Prop := ∀ kv ∈ clog, ∃ A, (kv.1, A) ∈ alog ∧ covers A kv.2

theorem logCovered_nil (a : Log) : LogCovered a [] := fun _ h => nomatch h

theorem logCovered_mono {a a' : Log} {c : CLog} (hs : ∀ e ∈ a, e ∈ a') (h : LogCovered a c) : LogCovered a' c :=
  fun kv hkv => let ⟨A, hA, hc⟩ := h kv hkv; ⟨A, hs _ hA, hc⟩

theorem logCovered_append {a1 a2 : Log} {c1 c2 : CLog} (h1 : LogCovered a1 c1) (h2 : LogCovered a2 c2) :
    LogCovered (a1 ++ a2) (c1 ++ c2) := fun kv hkv =>
  (List.mem_append.1 hkv).elim (logCovered_mono (fun _ => List.mem_append_left _) h1 kv)
    (logCovered_mono (fun _ => List.mem_append_right _) h2 kv)

theorem logCovered_single {k : Key} {A : ASet} {v : CVal} (hc : covers A v) : LogCovered [(k, A)] [(k, v)] := by
  intro kv hkv
  rw [List.mem_singleton.1 hkv]
  exact ⟨A, List.mem_singleton.2 rfl, hc⟩

theorem relV_initFields {k : Site} {A : ASet} {va : CVal} {ha : Site × String → Option ASet}
    {hc : Site × String → Option CVal} (h : ∀ x, RelV (ha x) (hc x)) (hcov : covers A va) :
    ∀ (fs : List (String × Option PyVal)) x, RelV (initFields k A ha fs x) (initFieldsC k va hc fs x)
  | [] => h
  | (_, none) :: rest => relV_upd (relV_initFields h hcov rest) hcov
  | (_, some c) :: rest => relV_upd (relV_initFields h hcov rest) (covers_const c)

theorem covers_readAll {heap : Site × String → Option ASet} {f : String} {s : Site} {v : CVal}
    (hc : covers ((heap (s, f)).getD [.unknown]) v) :
    ∀ (sites : List Site), s ∈ sites → covers (readAll heap f sites) v
  | t :: ts, h => by
    rcases List.mem_cons.1 h with rfl | h
    · exact covers_union_left hc
    · exact covers_union_right (covers_readAll hc ts h)

theorem mem_sitesOf {A : ASet} {s : Site} (h : AVal.obj s ∈ A) : s ∈ sitesOf A :=
  List.mem_filterMap.2 ⟨_, h, rfl⟩

theorem hasNonObj_of_unknown {A : ASet} (h : AVal.unknown ∈ A) : hasNonObj A = true :=
  List.any_eq_true.2 ⟨_, h, rfl⟩

theorem sound_execH (ab : ABin) (hab : ABinSound ab) (body : List HStmt) {env : Var → Option ASet}
    {envC : Var → Option CVal} {log : Log} {logC : CLog} {env' : Var → Option ASet} {log' : Log}
    {envC' : Var → Option CVal} {logC' : CLog} (hr : ∀ y, RelV (env y) (envC y)) (hl : LogCovered log logC)
    (he : execH ab body env log = some (env', log')) (hc : execHC body envC logC = some (envC', logC')) :
    (∀ y, RelV (env' y) (envC' y)) ∧ LogCovered log' logC' := by
  induction body generalizing env envC log logC with
  | nil => cases he; cases hc; exact ⟨hr, hl⟩
  | cons st rest ih =>
    cases st with
    | const k x c =>
      exact ih (relV_upd hr (covers_const c)) (logCovered_append hl (logCovered_single (covers_const c))) he hc
    | bin k x op a b =>
      unfold execH at he
      unfold execHC at hc
      split at hc
      · next va vb hva hvb =>
        split at hc
        · next v hv =>
          split at he
          · cases he
          · next res hr0 =>
            have hcov := hab op _ _ res va vb v hr0 (covers_evalH hr hva) (covers_evalH hr hvb) hv
            exact ih (relV_upd hr hcov) (logCovered_append hl (logCovered_single hcov)) he hc
        · cases hc
      · cases hc

theorem sound_bindParams {σ : AEnv} {ρ : CEnv} (hrel : Rel σ ρ) :
    ∀ (ps : List (Key × Var)) (args : List Opnd) (vs : List CVal),
      allSome (args.map (evalC ρ)) = some vs →
      (∀ y, RelV ((bindParams ps (args.map (evalOpnd σ))).1 y) ((bindParamsC ps vs).1 y)) ∧
      LogCovered (bindParams ps (args.map (evalOpnd σ))).2 (bindParamsC ps vs).2
  | [], _, _, _ => ⟨fun _ _ h => (nomatch h), logCovered_nil _⟩
  | _ :: _, [], _, hs => by cases hs; exact ⟨fun _ _ h => (nomatch h), logCovered_nil _⟩
  | (k, p) :: ps, a :: as, vs, hs => by
    cases ha : evalC ρ a with
    | none => simp [ha, allSome] at hs
    | some va =>
      simp only [List.map, ha, allSome] at hs
      obtain ⟨vs', hrest, rfl⟩ := Option.map_eq_some_iff.1 hs
      obtain ⟨ih1, ih2⟩ := sound_bindParams hrel ps as vs' hrest
      have hcov := rel_evalOpnd hrel ha
      exact ⟨relV_upd ih1 hcov, logCovered_append (logCovered_single hcov) ih2⟩

/-- every field write of the abstract execution goes through a receiver that denotes exactly one object
(C09's "objects reached through a single allocation per variable"; without it the analyser's strong
update of every receiver state is unsound — `C08_multi_target_write_unsound`). -/
def WritesOK (ab : ABin) (P : Prog) : Prg → AEnv → Prop
  | .seq a b, σ => WritesOK ab P a σ ∧ ∀ σ1 l1, exec ab P a σ = some (σ1, l1) → WritesOK ab P b σ1
  | .ite _ t e, σ => WritesOK ab P t σ ∧ WritesOK ab P e σ
  | .fwrite o _ _, σ => ∃ s, σ.get o = [.obj s]
  | _, _ => True

theorem exec_seq_some {ab : ABin} {P : Prog} {a b : Prg} {σ σ' : AEnv} {l : Log}
    (h : exec ab P (.seq a b) σ = some (σ', l)) :
    ∃ σ1 l1 l2, exec ab P a σ = some (σ1, l1) ∧ exec ab P b σ1 = some (σ', l2) ∧ l = l1 ++ l2 := by
  unfold exec at h
  split at h
  · cases h
  · next σ1 l1 h1 =>
    split at h
    · cases h
    · next σ2 l2 h2 => cases h; exact ⟨σ1, l1, l2, h1, h2, rfl⟩

theorem exec_ite_some {ab : ABin} {P : Prog} {i : Nat} {t e : Prg} {σ σ' : AEnv} {l : Log}
    (h : exec ab P (.ite i t e) σ = some (σ', l)) :
    ∃ σ1 l1 σ2 l2, exec ab P t σ = some (σ1, l1) ∧ exec ab P e σ = some (σ2, l2) ∧ σ' = σ1.join σ2 ∧ l = l1 ++ l2 := by
  unfold exec at h
  split at h
  · next σ1 l1 σ2 l2 h1 h2 => cases h; exact ⟨σ1, l1, σ2, l2, h1, h2, rfl, rfl⟩
  · cases h

theorem exec_bin_some {ab : ABin} {P : Prog} {k : Key} {x : Var} {op : String} {a b : Opnd} {σ σ' : AEnv} {l : Log}
    (h : exec ab P (.bin k x op a b) σ = some (σ', l)) :
    ∃ res, ab op (evalOpnd σ a) (evalOpnd σ b) = some res ∧ σ' = σ.set x res ∧ l = [(k, res)] := by
  unfold exec at h
  split at h
  · cases h
  · next res hr => cases h; exact ⟨res, hr, rfl, rfl⟩

theorem mem_runs_seq {P : Prog} {a b : Prg} {ρ : CEnv} {r : CEnv × CLog} :
    r ∈ runs P (.seq a b) ρ ↔ ∃ r1 ∈ runs P a ρ, ∃ r2 ∈ runs P b r1.1, (r2.1, r1.2 ++ r2.2) = r := by
  simp only [runs, List.mem_flatMap, List.mem_map]

theorem mem_runs_ite {P : Prog} {i : Nat} {t e : Prg} {ρ : CEnv} {r : CEnv × CLog} :
    r ∈ runs P (.ite i t e) ρ ↔ r ∈ runs P t ρ ∨ r ∈ runs P e ρ := List.mem_append

theorem stepC_bin_some {P : Prog} {k : Key} {x : Var} {op : String} {a b : Opnd} {ρ : CEnv} {r : CEnv × CLog}
    (h : stepC P (.bin k x op a b) ρ = some r) :
    ∃ va vb v, evalC ρ a = some va ∧ evalC ρ b = some vb ∧ cBin op va vb = some v ∧ r = (ρ.set x v, [(k, v)]) := by
  unfold stepC at h
  dsimp only at h
  split at h
  · next va vb ha hb =>
    obtain ⟨v, hv, rfl⟩ := Option.map_eq_some_iff.1 h
    exact ⟨va, vb, v, ha, hb, hv, rfl⟩
  · cases h

theorem sound_exec (ab : ABin) (hab : ABinSound ab) (P : Prog) (p : Prg) (σ : AEnv) (hw : WritesOK ab P p σ) (ρ : CEnv)
    (σ' : AEnv) (alog : Log) (he : exec ab P p σ = some (σ', alog)) (hrel : Rel σ ρ) (r : CEnv × CLog)
    (hr : r ∈ runs P p ρ) : Rel σ' r.1 ∧ LogCovered alog r.2 := by
  induction p generalizing σ ρ σ' alog r with
  | skip =>
    cases he; cases List.mem_singleton.1 hr
    exact ⟨hrel, logCovered_nil _⟩
  | seq a b iha ihb =>
    obtain ⟨σ1, l1, l2, h1, h2, rfl⟩ := exec_seq_some he
    obtain ⟨c1, hc1, c2, hc2, rfl⟩ := mem_runs_seq.1 hr
    obtain ⟨hr1, hl1⟩ := iha σ hw.1 ρ σ1 l1 h1 hrel c1 hc1
    obtain ⟨hr2, hl2⟩ := ihb σ1 (hw.2 σ1 l1 h1) c1.1 σ' l2 h2 hr1 c2 hc2
    exact ⟨hr2, logCovered_append hl1 hl2⟩
  | ite i t e iht ihe =>
    obtain ⟨σ1, l1, σ2, l2, h1, h2, rfl, rfl⟩ := exec_ite_some he
    rcases mem_runs_ite.1 hr with hr | hr
    · obtain ⟨hr1, hl1⟩ := iht σ hw.1 ρ σ1 l1 h1 hrel r hr
      exact ⟨rel_mk (relV_join_left hr1.1) (relV_join_left hr1.2), logCovered_mono (fun _ => List.mem_append_left _) hl1⟩
    · obtain ⟨hr2, hl2⟩ := ihe σ hw.2 ρ σ2 l2 h2 hrel r hr
      exact ⟨rel_mk (relV_join_right hr2.1) (relV_join_right hr2.2), logCovered_mono (fun _ => List.mem_append_right _) hl2⟩
  | const k x c =>
    obtain ⟨rfl, rfl⟩ := Prod.mk.inj (Option.some.inj he)
    obtain rfl := Option.some.inj (Option.mem_toList.1 hr)
    exact ⟨rel_set hrel (covers_const c), logCovered_single (covers_const c)⟩
  | copy k x y =>
    obtain ⟨rfl, rfl⟩ := Prod.mk.inj (Option.some.inj he)
    obtain ⟨v, hy, rfl⟩ := Option.map_eq_some_iff.1 (Option.mem_toList.1 hr)
    have hcov := rel_get hrel hy
    exact ⟨rel_set hrel hcov, logCovered_single hcov⟩
  | bin k x op a b =>
    obtain ⟨res, hr0, rfl, rfl⟩ := exec_bin_some he
    obtain ⟨va, vb, v, ha, hb, hv, rfl⟩ := stepC_bin_some (Option.mem_toList.1 hr)
    have hcov := hab op _ _ res va vb v hr0 (rel_evalOpnd hrel ha) (rel_evalOpnd hrel hb) hv
    exact ⟨rel_set hrel hcov, logCovered_single hcov⟩
  | new k x cls a =>
    have hr := Option.mem_toList.1 hr
    unfold exec at he
    unfold stepC at hr
    dsimp only at hr
    split at hr
    · next c va hcls ha =>
      rw [hcls] at he
      obtain ⟨rfl, rfl⟩ := Prod.mk.inj (Option.some.inj he)
      cases hr
      exact ⟨rel_mk (relV_upd hrel.1 (covers_obj k)) (relV_initFields hrel.2 (rel_evalOpnd hrel ha) c.fields),
        logCovered_single (covers_obj k)⟩
    · cases hr
  | fwrite o f a =>
    obtain ⟨s, hs⟩ := hw
    cases he
    have hr := Option.mem_toList.1 hr
    unfold stepC at hr
    dsimp only at hr
    split at hr
    · next s' va ho ha =>
      cases hr
      obtain rfl : s' = s := eq_of_covers_obj (hs ▸ rel_get hrel ho)
      refine ⟨⟨hrel.1, ?_⟩, logCovered_nil _⟩
      -- `writeAll` over the one site of `[.obj s']` is one `upd`
      simp only [hs, sitesOf, List.filterMap, writeAll]
      exact relV_upd hrel.2 (rel_evalOpnd hrel ha)
    · cases hr
  | fread k x o f =>
    obtain ⟨rfl, rfl⟩ := Prod.mk.inj (Option.some.inj he)
    have hr := Option.mem_toList.1 hr
    unfold stepC at hr
    dsimp only at hr
    split at hr
    · next s ho =>
      obtain ⟨v, hf, rfl⟩ := Option.map_eq_some_iff.1 hr
      suffices hcov : covers _ v from ⟨rel_set hrel hcov, logCovered_single hcov⟩
      rcases rel_get hrel ho with hu | hv
      · rw [hasNonObj_of_unknown hu]
        exact Or.inl (mem_union.2 (Or.inr (List.mem_singleton.2 rfl)))
      · have h2 := covers_readAll (relV_getD (hrel.2 (s, f)) hf) _ (mem_sitesOf hv)
        split
        · exact covers_union_left h2
        · exact h2
    · cases hr
  | call k x h args =>
    have hr := Option.mem_toList.1 hr
    unfold exec at he
    unfold stepC at hr
    dsimp only at hr
    split at hr
    · next hp vs hh hvs =>
      rw [hh] at he
      obtain ⟨hb1, hb2⟩ := sound_bindParams hrel hp.params args vs hvs
      simp only at he hr
      split at he
      · cases he
      · next env hlog hA =>
        obtain ⟨rfl, rfl⟩ := Prod.mk.inj (Option.some.inj he)
        split at hr
        · next envC hlogC hC =>
          obtain ⟨rv, hret, rfl⟩ := Option.map_eq_some_iff.1 hr
          obtain ⟨he1, he2⟩ := sound_execH ab hab hp.body hb1 hb2 hA hC
          have hcov := relV_getD (he1 hp.ret) hret
          exact ⟨rel_set hrel hcov, logCovered_append he2 (logCovered_single hcov)⟩
        · cases hr
    · cases hr

theorem mem_keysDedup {k : Key} : ∀ {l : List Key}, k ∈ keysDedup l ↔ k ∈ l
  | [] => Iff.rfl
  | a :: as => by
    rw [keysDedup, List.mem_cons]
    split
    · next hc =>
      rw [mem_keysDedup]
      exact ⟨.inr, fun h => h.elim (fun e => e ▸ List.contains_iff_mem.1 hc) id⟩
    · rw [List.mem_cons, mem_keysDedup]

theorem mem_unionAll {a : AVal} : ∀ {l : List ASet}, a ∈ unionAll l ↔ ∃ A ∈ l, a ∈ A
  | [] => by simp only [unionAll, List.not_mem_nil, false_and, exists_false]
  | B :: rest => by rw [unionAll, mem_union, mem_unionAll]; simp only [List.mem_cons, exists_eq_or_imp]

theorem mem_mergeLog {log : Log} {k : Key} {A : ASet} (h : (k, A) ∈ log) :
    ∃ A', (k, A') ∈ mergeLog log ∧ ∀ a ∈ A, a ∈ A' :=
  ⟨_, List.mem_map.2 ⟨k, mem_keysDedup.2 (List.mem_map.2 ⟨(k, A), h, rfl⟩), rfl⟩, fun _ ha =>
    mem_unionAll.2 ⟨A, List.mem_map.2 ⟨(k, A), List.mem_filter.2 ⟨h, decide_eq_true rfl⟩, rfl⟩, ha⟩⟩

theorem of_mem_mergeLog {log : Log} {k : Key} {A' : ASet} (h : (k, A') ∈ mergeLog log) :
    ∀ a ∈ A', ∃ A, (k, A) ∈ log ∧ a ∈ A := by
  intro a ha
  obtain ⟨k', _, hk⟩ := List.mem_map.1 h
  cases hk
  obtain ⟨A, hA, haA⟩ := mem_unionAll.1 ha
  obtain ⟨p, hp, rfl⟩ := List.mem_map.1 hA
  obtain ⟨hpl, hpk⟩ := List.mem_filter.1 hp
  exact ⟨p.2, of_decide_eq_true hpk ▸ hpl, haA⟩

theorem rel_empty : Rel AEnv.empty CEnv.empty := ⟨fun _ _ h => (nomatch h), fun _ _ h => (nomatch h)⟩

theorem run_eq_some {ab : ABin} {P : Prog} {res : Log} (h : run ab P = some res) :
    ∃ σ' alog, exec ab P P.body AEnv.empty = some (σ', alog) ∧ res = mergeLog alog := by
  obtain ⟨⟨σ', alog⟩, he, rfl⟩ := Option.map_eq_some_iff.1 h
  exact ⟨σ', alog, he, rfl⟩

theorem sound_run (ab : ABin) (hab : ABinSound ab) (P : Prog) (hw : WritesOK ab P P.body AEnv.empty) {res : Log}
    (hrun : run ab P = some res) {k : Key} {v : CVal} (hv : Takes P k v) : ∃ A, (k, A) ∈ res ∧ covers A v := by
  obtain ⟨σ', alog, he, rfl⟩ := run_eq_some hrun
  obtain ⟨r, hr, hkv⟩ := hv
  obtain ⟨A, hA, hc⟩ := (sound_exec ab hab P P.body AEnv.empty hw CEnv.empty σ' alog he rel_empty r hr).2 (k, v) hkv
  obtain ⟨A', hA', hsub⟩ := mem_mergeLog hA
  exact ⟨A', hA', covers_mono hsub hc⟩

end LianVerif.ArefProofs
