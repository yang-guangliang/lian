/-
The repaired directory walk terminates — with fuel `maxDepth + 2` it never
reports `fuelOut` — because it never enters the workspace it is filling: every directory it visits
exists in the reference file system outside the workspace, whose depth is bounded.
-/
import LianVerif.Proofs.WorkspaceMain

namespace LianVerif.Workspace
open LianVerif.Fs

variable {W : Path} {base : FS} {cfg : Cfg} {ws : RPath} {fs : FS}

theorem mkdirsOp_noFuel (cwd : Path) (p : RPath) (s : St) : (mkdirsOp cwd p s).2 ≠ some .fuelOut := by
  unfold mkdirsOp
  split <;> simp

theorem andThen_noFuel {r : Res} {k : St → Res} (h1 : r.2 ≠ some .fuelOut)
    (h2 : r.2 = none → (k r.1).2 ≠ some .fuelOut) : (andThen r k).2 ≠ some .fuelOut := by
  cases hr : r.2 with
  | none => rw [andThen_none hr]; exact h2 hr
  | some x => rw [andThen_some hr]; exact h1

theorem copy2To_noFuel (cwd : Path) (src dst : RPath) (s : St) : (copy2To cwd src dst s).2 ≠ some .fuelOut := by
  unfold copy2To
  repeat' split
  all_goals simp

theorem copyFile_noFuel (cfg : Cfg) (src dst : RPath) (s : St) : (copyFile cfg src dst s).2 ≠ some .fuelOut := by
  unfold copyFile
  simp only
  split
  · simp
  · split
    · exact andThen_noFuel (copy2To_noFuel _ _ _ _) fun _ => by simp
    · simp
    · simp

theorem copyEntry_noFuel (cfg : Cfg) (src dst : RPath) (s : St) : (copyEntry cfg src dst s).2 ≠ some .fuelOut := by
  unfold copyEntry
  split
  · simp
  · split
    · exact copyFile_noFuel cfg src dst s
    · simp

theorem seqAll_noFuel {α : Type} {f : α → St → Res} (h : ∀ a s, (f a s).2 ≠ some .fuelOut) (l : List α)
    (s : St) : (seqAll f l s).2 ≠ some .fuelOut := by
  induction l generalizing s with
  | nil => simp [seqAll]
  | cons a r ih =>
    have ha := h a s
    rw [seqAll]
    split
    · exact ih _
    · exact ha

theorem wipeChild_noFuel (cwd : Path) (path : RPath) (n : String) (s : St) :
    (wipeChild cwd path n s).2 ≠ some .fuelOut := by
  unfold wipeChild
  simp only
  repeat' split
  all_goals simp

theorem wipe_noFuel (cwd : Path) (path : RPath) (s : St) : (wipe cwd path s).2 ≠ some .fuelOut := by
  unfold wipe
  split
  · simp
  · exact seqAll_noFuel (wipeChild_noFuel _ _) _ _

theorem prepareDirectory_noFuel (cwd : Path) (path : RPath) (s : St) :
    (prepareDirectory cwd path s).2 ≠ some .fuelOut := by
  unfold prepareDirectory
  split
  · simp
  · exact mkdirsOp_noFuel _ _ _

theorem mem_length_le_maxDepth {e : Path × Node} (h : e ∈ fs) : e.1.length ≤ maxDepth fs := by
  suffices ∀ (fs : FS) (m : Nat), m ≤ fs.foldl (fun m e => max m e.1.length) m ∧
      ∀ e ∈ fs, e.1.length ≤ fs.foldl (fun m e => max m e.1.length) m from (this fs 0).2 e h
  intro fs
  induction fs with
  | nil => simp
  | cons a r ih =>
    intro m
    obtain ⟨h1, h2⟩ := ih (max m a.1.length)
    rw [List.foldl_cons]
    refine ⟨Nat.le_trans (Nat.le_max_left _ _) h1, fun e he => ?_⟩
    rcases List.mem_cons.1 he with rfl | he
    · exact Nat.le_trans (Nat.le_max_right _ _) h1
    · exact h2 e he

structure BoundCtx (W : Path) (base : FS) (cwd : Path) : Prop where
  physCwd : PhysDir base cwd
  cwdOut : ¬ Below W cwd

section
variable {cwd : Path} {s : St}

theorem leads_phys (b : BoundCtx W base cwd) (hs : Inv W base s) {p : RPath} {q : Path}
    (h : LeadsTo cwd s p q) : PhysDir s.fs q := by
  obtain ⟨_, st, hst, hres⟩ := h
  refine resolveDir_phys ?_ hres
  rw [startOf_ok hst]
  split
  · exact physDir_nil _
  · exact hs.physDir b.physCwd b.cwdOut

theorem depth_le_of_outside (hs : Inv W base s) {q : Path} (hq : PhysDir s.fs q) (hnb : ¬ Below W q) :
    q.length ≤ maxDepth base := by
  by_cases hne : q = []
  · simp [hne]
  · exact mem_length_le_maxDepth (mem_of_lookup hne (hs.agree q hnb ▸ physDir_lookup hq))

end

theorem fuel_child {m f l l' : Nat} (h : m + 2 ≤ f + 1 + l) (hl : l ≤ m) (hl' : l' = l + 1) :
    1 ≤ f ∧ m + 2 ≤ f + l' := by
  omega

/-- Every directory the live walk enters uses one level of fuel, `W` included (it is listed before it is
pruned); it enters nothing below `W`, and what it enters outside `W` is a directory of `base`, at most
`maxDepth base` deep: with `maxDepth base + 2` levels it has one left for each of its sub-directories. -/
theorem walk_noFuel (ctx : WsCtx W base cfg.cwd ws)
    (b : BoundCtx W base cfg.cwd) (src : RPath) {dst : RPath} (hdst : InWs ws dst) :
    ∀ (fuel : Nat) (top : RPath) (q : Path) (s : St), Inv W base s → TopOk cfg.cwd src top →
      LeadsTo cfg.cwd s top q → 1 ≤ fuel → (¬ W <+: q → maxDepth base + 2 ≤ fuel + q.length) →
      (walk .live cfg W src dst fuel top s).2 ≠ some .fuelOut := by
  intro fuel
  induction fuel with
  | zero => intro _ _ _ _ _ _ h; cases h
  | succ fuel ih =>
    intro top q s hs htop hlead _ h1
    have hnames := childNames_plain hs.plainAll q
    rw [walk, hlead.listDir, insideWorkspace, mRealpath_of_mstat (mstat_dir_iff.2 hlead)]
    by_cases hpre : W <+: q
    · simp [Variant.prune, insideOrEq, List.isPrefixOf_iff_prefix.2 hpre]
    · simp only [Variant.prune, insideOrEq, isPrefixOf_eq_false hpre, Bool.and_false, Bool.false_eq_true,
        if_false]
      obtain ⟨hmk, hready⟩ := mkdirsOp_inws ctx hs (hdst.walkDst htop)
      refine andThen_noFuel (mkdirsOp_noFuel _ _ _) fun hnone =>
        andThen_noFuel (seqAll_noFuel (fun _ _ => copyEntry_noFuel _ _ _ _) _ _) fun _ hx => ?_
      obtain ⟨q1, hq1⟩ := hready hnone
      have hfiles : Step W base _ (seqAll (fun n => copyEntry cfg (joinName top n)
          (Fs.join dst (relpath cfg.cwd top src)))
          ((childNames s.fs q).filter fun n => !mIsDir cfg.cwd s (joinName top n)) _).1 :=
        step_seqAll (fun _ _ hp hst => hp.step hst) _ (fun n _ st hst hp => copyEntry_step hst hp _) _
          hmk.inv hq1
      -- the sub-directory `n` that ran out of fuel was entered from a state `t` reached from `s`
      obtain ⟨n, hn, t, hst, ⟨hit, _⟩, hfo⟩ := step_seqAll_stopped (P := fun _ => True)
        (fun _ _ _ _ => trivial) _ (fun n hn st hi _ => by
          split
          · exact Step.refl hi
          · exact walk_good ctx .live W src hdst fuel _
              (htop.child (hnames n (List.mem_filter.1 hn).1)) st hi)
        _ hfiles.inv trivial hx
      have hnp := hnames n (List.mem_filter.1 hn).1
      by_cases hlk : mIsLink cfg.cwd t (joinName top n) = true
      · rw [if_pos hlk] at hfo; cases hfo
      · rw [if_neg hlk] at hfo
        have hd : mIsDir cfg.cwd s (joinName top n) = true := by simpa using (List.mem_filter.1 hn).2
        obtain ⟨hf, hf'⟩ := fuel_child (h1 hpre)
          (depth_le_of_outside hs (leads_phys b hs hlead) fun hb => hpre hb.1) (List.length_append (bs := [n]))
        exact ih _ _ t hit (htop.child hnp)
          (hlead.child_of_isDir hnp hd ((hmk.trans hfiles).trans hst) hlk) hf (fun _ => hf') hfo

section
variable (ctx : WsCtx W base cfg.cwd ws)
  (b : BoundCtx W base cfg.cwd) {fuel : Nat} (hfuel : maxDepth base + 2 ≤ fuel)
include ctx b hfuel

theorem copyTree_noFuel (src : RPath) {dst : RPath} (hdst : InWs ws dst) {s : St} (hs : Inv W base s) :
    (copyTree .live cfg W fuel src dst s).2 ≠ some .fuelOut :=
  copyTree_cases (C := fun r => r.2 ≠ some .fuelOut) nofun
    (fun hd => (mIsDir_iff.1 hd).elim fun q hq =>
      walk_noFuel ctx b src hdst fuel src q s hs (TopOk.refl _ _) hq
        (Nat.lt_of_lt_of_le (Nat.succ_pos _) hfuel) (fun _ => Nat.le_trans hfuel (Nat.le_add_right _ _)))
    fun _ => copyFile_noFuel _ _ _ _

theorem copyInput_noFuel (hp : ParamsOk cfg) (i : RPath) {s : St} (hs : Inv W base s) :
    (copyInput .live cfg W fuel (joinName ws cfg.srcDir) i s).2 ≠ some .fuelOut := by
  have hsrc : plain cfg.srcDir = true := hp.plainSub _ hp.srcIn
  unfold copyInput
  split
  · simp
  · split
    · simp
    · split
      · exact copyTree_noFuel ctx b hfuel i (InWs.second ws hsrc _) hs
      · exact copyTree_noFuel ctx b hfuel i (InWs.subdir ws hsrc) hs

theorem fill_noFuel (hp : ParamsOk cfg) {s1 : St} (hs : Inv W base s1) :
    (fill .live fuel cfg ws W s1).2 ≠ some .fuelOut := by
  unfold fill
  obtain ⟨hsub, hsubq⟩ := subdirs_step ctx hp hs
  refine andThen_noFuel (seqAll_noFuel (fun _ _ => mkdirsOp_noFuel _ _ _) _ _) fun hnone => ?_
  have hready := hsubq hnone _ hp.srcIn
  have hP : ∀ s s' : St, (∃ q, Ready W cfg.cwd s (joinName ws cfg.srcDir) q) → Step W base s s' →
      ∃ q, Ready W cfg.cwd s' (joinName ws cfg.srcDir) q := fun _ _ ⟨q, h⟩ hst => ⟨q, h.step hst⟩
  have hstep := fun i (_ : i ∈ cfg.inputs) st hi hr => copyInput_step ctx hp .live W fuel i (s := st) hi hr
  refine andThen_noFuel (fun hx => ?_) fun _ => ?_
  · obtain ⟨i, _, t, _, ⟨hit, _⟩, hfo⟩ := step_seqAll_stopped hP _ hstep _ hsub.inv hready hx
    exact copyInput_noFuel ctx b hfuel hp i hit hfo
  · split
    · simp
    · exact copyTree_noFuel ctx b hfuel _ (InWs.subdir ws (hp.plainSub _ hp.extIn))
        (step_seqAll hP _ hstep _ hsub.inv hready).inv

end

theorem prepare_noFuel (hf : Frag cfg fs W)
    (hreal : realpath fs cfg.cwd (setWorkspaceDir cfg) = W)
    (b : BoundCtx W (prepState cfg fs).fs cfg.cwd) {fuel : Nat}
    (hfuel : maxDepth (prepState cfg fs).fs + 2 ≤ fuel) :
    (prepare .live fuel cfg fs).2 ≠ some .fuelOut := by
  rcases prepare_cases .live fuel cfg fs with h | ⟨_, h⟩
  · rw [h]; simp
  · rw [h, hreal]
    refine andThen_noFuel (andThen_noFuel (prepareDirectory_noFuel _ _ _) fun _ => wipe_noFuel _ _ _)
      fun hnone => ?_
    cases hp : (prepareDirectory cfg.cwd (wsAbsPath cfg (setWorkspaceDir cfg)) (initSt fs)).2 with
    | some x => rw [andThen_some hp, hp] at hnone; cases hnone
    | none =>
      rw [andThen_none hp, ← prepState] at hnone ⊢
      exact fill_noFuel hf.ctx b hfuel hf.params ((wipe_establishes hf).2 hnone)

end LianVerif.Workspace
