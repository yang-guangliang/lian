import Lean.Meta.Tactic.Simp.RegisterCommand

/-- Lemmas that move a renumbering outwards through the helpers of the CFG analysis and the records of
its results; for `analyze_map` the set also gets the equations of `mapS` / `analyze` and
`List.map_append` from right to left. -/
register_simp_attr cfg_renum
