/-
Proofs/CfgSound.lean — soundness of the repaired CFG builder model (`analyze Q.live`) on the fragment F₀: every
control-skeleton run of an F₀ block, entered from a statement of the analysed frontier, is a chain of
edges the analysis emits, and ends in the frontier / pending specials the analysis returns
(`sim_all`, at method level `run_sim`).  `build_has`: the graph built by `_add_one_edge` from the emissions contains every
emitted pair (up to self loops).
-/
import LianVerif.Proofs.Ctl

namespace LianVerif.Cfg

section
variable (R : Int → Int → Prop)

def HasE (es : List Edge) : Prop := ∀ e ∈ es, R (e.1 : Int) e.2.1

theorem hasE_nil : HasE R [] := nofun

def linkO : Option Int → Int → Prop
  | none, _ => True
  | some a, b => R a b

/-- a run entered from nowhere (the first step of a method) counts as entered from any frontier -/
def InFr : Option Int → List Fr → Prop
  | none, _ => True
  | some x, F => ∃ f ∈ F, (f.id : Int) = x

def InSp (b : Bool) (x : Option Int) (sp : List Sp) : Prop :=
  ∃ s ∈ sp, s.isBrk = b ∧ x = some (s.id : Int)

/-- nothing raises: the simulation is for blocks outside any try (`rz = false`) -/
def Concl (F' : List Fr) (dsp : List Sp) : Out → Option Int → Prop
  | .normal, x => InFr x F'
  | .brk, x => InSp true x dsp
  | .cont, x => InSp false x dsp
  | .ret, x => ∃ y, x = some y ∧ R y (-1)
  | .raise, _ => False
  | .stop, _ => True

def Ends (a : Option Int) (r : Res) (e : Em) : Prop := Run (linkO R) a r (Concl R e.F e.sp)

def SimAt (n : Nat) (s : S) : Prop :=
  ∀ F, HasE R (analyze Q.live s F).es → ∀ a, InFr a F → ∀ o,
    Ends R a (exec n .stmt false s o) (analyze Q.live s F)

def Sim (s : S) : Prop := ∀ n, SimAt R n s

variable {R}

theorem hasE_append {es1 es2 : List Edge} : HasE R (es1 ++ es2) ↔ HasE R es1 ∧ HasE R es2 :=
  List.forall_mem_append

theorem hasE_link {F : List Fr} {dst : Int} : HasE R (link F dst) ↔ ∀ f ∈ F, R (f.id : Int) dst := by
  simp [HasE, link]

theorem inFr_link {a : Option Int} {F : List Fr} {dst : Int} (ha : InFr a F) (h : ∀ f ∈ F, R (f.id : Int) dst) :
    linkO R a dst := by
  cases a with
  | none => trivial
  | some x => obtain ⟨f, hf, rfl⟩ := ha; exact h f hf

theorem inFr_mono {a : Option Int} {F G : List Fr} (ha : InFr a F) (h : ∀ f ∈ F, f ∈ G) : InFr a G := by
  cases a with
  | none => trivial
  | some x => obtain ⟨f, hf, hx⟩ := ha; exact ⟨f, h f hf, hx⟩

theorem inFr_self {f : Fr} {F : List Fr} (h : f ∈ F) : InFr (some (f.id : Int)) F := ⟨f, h, rfl⟩

theorem concl_mono {F G : List Fr} {sp sp' : List Sp} {out : Out} {x : Option Int}
    (hF : out = .normal → ∀ f ∈ F, f ∈ G) (hs : ∀ s ∈ sp, s ∈ sp') (h : Concl R F sp out x) :
    Concl R G sp' out x := by
  cases out with
  | normal => exact inFr_mono h (hF rfl)
  | brk | cont => obtain ⟨s, h1, h2⟩ := h; exact ⟨s, hs s h1, h2⟩
  | _ => exact h

variable {a : Option Int} {r : Res} {f : List Bool → Res} {e e' : Em}

theorem ends_mono (h : Ends R a r e) (hF : ∀ x ∈ e.F, x ∈ e'.F) (hs : ∀ s ∈ e.sp, s ∈ e'.sp) : Ends R a r e' :=
  run_mono h fun _ => concl_mono (fun _ => hF) hs

theorem ends_seq (h1 : Ends R a r e) (hs : ∀ s ∈ e.sp, s ∈ e'.sp)
    (h2 : ∀ x, InFr x e.F → ∀ o, Ends R x (f o) e') : Ends R a (r.bind f) e' :=
  run_bind h1 (fun hn _ hx => concl_mono (fun h => absurd h hn) hs hx) h2

theorem andThen_eq_cont (r : Em) (g : List Fr → Em) : r.andThen g = r.cont false g := rfl

theorem cont_sp {r : Em} {stop : Bool} {g : List Fr → Em} : ∀ s ∈ r.sp, s ∈ (r.cont stop g).sp := by
  intro s hs
  cases stop with
  | true => exact hs
  | false => exact List.mem_append_left _ hs

theorem hasE_cont {r : Em} {stop : Bool} {g : List Fr → Em} (h : HasE R (r.cont stop g).es) :
    HasE R r.es ∧ (stop = false → HasE R (g r.F).es) := by
  cases stop with
  | true => exact ⟨h, nofun⟩
  | false => exact ⟨hasE_append.1 h |>.1, fun _ => hasE_append.1 h |>.2⟩

theorem stops_live {nb : Bool} {F : List Fr} (h : stops Q.live nb F = true) : F = [] := by
  simp only [stops, Q.live, Bool.not_true, Bool.false_or, Bool.and_eq_true, List.isEmpty_iff] at h
  exact h.2

/-- the analysis goes on from `r.F` unless the handler stops the block (`Em.cont`), which it only does
when nothing falls through -/
theorem sim_rest {k : Nat} {rest : S} (hs : SimAt R k rest) {r : Em} {stop : Bool}
    (hstop : stop = true → r.F = []) (hE : HasE R (r.cont stop (analyze Q.live rest)).es)
    {x : Int} (hx : InFr (some x) r.F) (o : List Bool) :
    Ends R (some x) (exec k .stmt false rest o) (r.cont stop (analyze Q.live rest)) := by
  cases stop with
  | true =>
    rw [hstop rfl] at hx
    obtain ⟨_, hf, _⟩ := hx
    cases hf
  | false =>
    exact ends_mono (hs r.F ((hasE_cont hE).2 rfl) _ hx o) (fun _ hf => hf)
      fun _ => List.mem_append_right _

theorem sim_cont {k : Nat} {rest : S} (hs : SimAt R k rest) {r : Em} {stop : Bool}
    (hstop : stop = true → r.F = []) (hE : HasE R (r.cont stop (analyze Q.live rest)).es)
    {x : Int} {r1 : Res} (h1 : Ends R (some x) r1 r) :
    Ends R (some x) (r1.bind (exec k .stmt false rest)) (r.cont stop (analyze Q.live rest)) :=
  -- `sim_rest` needs a real predecessor (a stopped block has the empty frontier); `r1`, entered from the
  -- step `x`, ends after some step
  run_bind (run_some h1) (fun hn _ hy => concl_mono (fun h => absurd h hn) cont_sp hy.2)
    fun y ⟨hz, hy⟩ => by
      obtain ⟨_, rfl⟩ := Option.isSome_iff_exists.1 (hz rfl)
      exact sim_rest hs hstop hE hy

theorem dealLoop_back {id : Nat} {ct : Bool} {F : List Fr} {lsp : List Sp}
    (h : HasE R (dealLoop id ct F lsp).2) : ∀ f ∈ F ++ conts lsp, R (f.id : Int) id := by
  simp only [dealLoop, hasE_append, hasE_link] at h
  intro f hf
  rcases List.mem_append.1 hf with hf | hf
  · exact h.1 (Fr.wrap kLOOP_BACK f) (List.mem_map_of_mem hf)
  · refine h.2 f ?_
    simpa [conts] using hf

theorem dealLoop_brk {id : Nat} {ct : Bool} {F : List Fr} {lsp : List Sp} :
    ∀ s ∈ lsp, s.isBrk = true → (⟨s.id, none⟩ : Fr) ∈ (dealLoop id ct F lsp).1 := by
  intro s hs hb
  have : (⟨s.id, none⟩ : Fr) ∈ plain (lsp.reverse.filter (fun s => s.isBrk)) :=
    List.mem_map.2 ⟨s, List.mem_filter.2 ⟨List.mem_reverse.2 hs, hb⟩, rfl⟩
  cases ct with
  | true => exact this
  | false => exact List.mem_append_left _ this

theorem dealLoop_false {id : Nat} {F : List Fr} {lsp : List Sp} :
    (⟨id, some kLOOP_FALSE⟩ : Fr) ∈ (dealLoop id false F lsp).1 := by
  simp [dealLoop]

theorem popLast_keep {res : List Fr} {f : Fr} (hf : f ∈ res) (hk : f.kind ≠ some kLOOP_FALSE) :
    f ∈ (popLast Q.live res).1 := by
  simp only [popLast, Q.live, if_true]
  cases hl : res.getLast? with
  | none => exact hf
  | some l =>
    by_cases hc : (l.kind == some kLOOP_FALSE) = true <;> simp only [hc, Bool.false_eq_true, if_false, if_true]
    · obtain ⟨ys, rfl⟩ := List.getLast?_eq_some_iff.1 hl
      rw [List.dropLast_concat]
      rcases List.mem_append.1 hf with hf | hf
      · exact hf
      · rw [List.mem_singleton.1 hf] at hk
        exact absurd (by simpa using hc) hk
    · exact hf

theorem isNil_eq {s : S} (h : s.isNil = true) : s = .nil := by
  cases s with
  | nil => rfl
  | _ => cases h

theorem live_forCont : Q.live.forCont = true := rfl
theorem live_pre : Q.live.pre = true := rfl
theorem live_popGuard : Q.live.popGuard = true := rfl
theorem live_elseSp : Q.live.elseSp = true := rfl
theorem live_emptyBnd : Q.live.emptyBnd = true := rfl
theorem nil_isNil : S.nil.isNil = true := rfl

theorem sim_of_succ {s : S} (h : ∀ n, SimAt R (n + 1) s) : Sim R s
  | 0 => fun _ _ _ _ _ => run_stop
  | n + 1 => h n

theorem sim_if {id : Nat} {thn els rest : S} (hthn : Sim R thn) (hels : Sim R els) (hrest : Sim R rest) :
    Sim R (.ifS id thn els rest) := by
  refine sim_of_succ fun n F hE a ha o => ?_
  unfold exec
  simp only [analyze] at hE ⊢
  have hT := fun h => hthn n [⟨id, some kIF_TRUE⟩] h (some (id : Int)) (inFr_self (.head _))
  have hF := fun h => hels n [⟨id, some kIF_FALSE⟩] h (some (id : Int)) (inFr_self (.head _))
  generalize analyze Q.live thn [⟨id, some kIF_TRUE⟩] = rt at hE hT ⊢
  generalize analyze Q.live els [⟨id, some kIF_FALSE⟩] = re at hE hF ⊢
  have hr := (hasE_cont hE).1
  simp only [hasE_append] at hr
  obtain ⟨⟨hlink, hrt⟩, hre⟩ := hr
  refine run_tick_bind (inFr_link ha (hasE_link.1 hlink)) nofun fun o' => ?_
  match o' with
  | [] => exact run_stop
  | true :: o'' =>
    exact sim_cont (hrest n) stops_live hE <| ends_mono (hT hrt o'')
      (fun _ => List.mem_append_left _) fun _ => List.mem_append_left _
  | false :: o'' =>
    exact sim_cont (hrest n) stops_live hE <| ends_mono (hF hre o'')
      (fun _ => List.mem_append_right _) fun _ => List.mem_append_right _

theorem mem_conts {sp : List Sp} {s : Sp} (hs : s ∈ sp) (hb : s.isBrk = false) :
    (⟨s.id, some kCONTINUE⟩ : Fr) ∈ conts sp :=
  List.mem_map.2 ⟨s, List.mem_filter.2 ⟨hs, by simp [hb]⟩, rfl⟩

theorem ends_afterBody {again exit : List Bool → Res} {rb : Em} (h : Ends R a r rb)
    (hagain : ∀ x, (a.isSome → x.isSome) → InFr x (rb.F ++ conts rb.sp) → ∀ o, Ends R x (again o) e)
    (hexit : ∀ s ∈ rb.sp, s.isBrk = true → ∀ o, Ends R (some (s.id : Int)) (exit o) e) :
    Ends R a (afterBody r again exit) e :=
  run_afterBody (run_some h)
    (fun x hx => hx.elim (fun ⟨hs, h⟩ => hagain x hs (inFr_mono h fun _ => List.mem_append_left _))
      fun ⟨hs, _, hm, hb, hx⟩ => hagain x hs (hx ▸ inFr_self (List.mem_append_right _ (mem_conts hm hb))))
    (fun _ ⟨_, _, hm, hb, hx⟩ => hx ▸ hexit _ hm hb) (fun _ h => h.2) (fun _ h => h.2)

/-- The loop is re-entered from whatever falls out of the body or continues; all of that is linked to the
loop statement, so the induction on the fuel is over all entries linked to it. -/
theorem while_loop {id : Nat} {ct : Bool} {body els rest : S} {F : List Fr} {rb : Em}
    (hbody : ∀ k o, Ends R (some (id : Int)) (exec k .stmt false body o) rb)
    (hl : HasE R (link F id)) (hd : HasE R (dealLoop id ct rb.F rb.sp).2)
    (hbrk : ∀ k, ∀ s ∈ rb.sp, s.isBrk = true → ∀ o, Ends R (some (s.id : Int)) (exec k .stmt false rest o) e)
    (hfalse : ct = false → ∀ k o, Ends R (some (id : Int))
      ((exec k .stmt false els o).bind (exec k .stmt false rest)) e) :
    ∀ k a, InFr a F → ∀ o, Ends R a (exec k .stmt false (.whileS id ct .nil body els rest) o) e := by
  suffices h : ∀ k a, linkO R a id → ∀ o,
      Ends R a (exec k .stmt false (.whileS id ct .nil body els rest) o) e from
    fun k a ha => h k a (inFr_link ha (hasE_link.1 hl))
  intro k
  induction k with
  | zero => exact fun _ _ _ => run_stop
  | succ k ihk =>
    intro a ha o
    unfold exec
    refine run_nil_bind (run_tick_bind ha nofun fun o1 =>
      run_choose (fun o' => ?_) fun hct => hfalse hct k)
    exact ends_afterBody (hbody k o') (fun x _ hx => ihk x (inFr_link hx (dealLoop_back hd))) (hbrk k)

theorem sim_while {id : Nat} {ct : Bool} {pre body els rest : S} (hpre : pre.isNil = true)
    (hbody : Sim R body) (hels : Sim R els) (hrest : Sim R rest) : Sim R (.whileS id ct pre body els rest) := by
  intro n F hE
  cases isNil_eq hpre
  have hB := fun k h => hbody k [⟨id, some kLOOP_TRUE⟩] h (some (id : Int)) (inFr_self (.head _))
  have hEl := fun k h => hels k [⟨id, some kLOOP_TRUE⟩] h (some (id : Int)) (inFr_self (.head _))
  simp only [analyze, withPre, nil_isNil, live_pre, live_elseSp, Bool.not_true, Bool.and_false,
    Bool.false_eq_true, if_false, if_true, List.nil_append, Bool.or_true, Bool.and_true] at hE ⊢
  generalize analyze Q.live body [⟨id, some kLOOP_TRUE⟩] = rb at hE hB ⊢
  generalize analyze Q.live els [⟨id, some kLOOP_TRUE⟩] = re at hE hEl ⊢
  cases hen : els.isNil with
  | true =>
    cases isNil_eq hen
    simp only [nil_isNil, if_true] at hE ⊢
    have hes := (hasE_cont hE).1
    simp only [hasE_append] at hes
    refine while_loop (fun k => hB k hes.1.2) hes.1.1 hes.2 ?_ ?_ n
    · intro k s hs hsb
      exact sim_rest (hrest k) stops_live hE (inFr_self (dealLoop_brk (F := rb.F) s hs hsb))
    · intro hct k o'
      subst hct
      exact run_nil_bind (sim_rest (hrest k) stops_live hE (inFr_self (dealLoop_false (F := rb.F))) o')
  | false =>
    -- the false exit runs the else-body (`popLast` takes it out of the exits), a `break` skips it
    simp only [hen, Bool.false_eq_true, if_false, andThen_eq_cont] at hE ⊢
    have hes := (hasE_cont hE).1
    simp only [hasE_append] at hes
    refine while_loop (fun k => hB k hes.1.1.2) hes.1.1.1 hes.1.2 ?_ ?_ n
    · intro k s hs hsb
      exact sim_rest (stop := false) (hrest k) nofun hE
        (inFr_self (List.mem_append_left _ (popLast_keep (dealLoop_brk (F := rb.F) s hs hsb) (by simp))))
    · intro hct k o'
      exact sim_cont (stop := false) (hrest k) nofun hE <|
        ends_mono (hEl k hes.2 o')
          (fun _ => List.mem_append_right _) fun _ hs => hs

/-- The loop is re-entered from the dowhile statement, which is in the
frontier the body is analysed from (`parent_stmts + [CFGNode(dowhile, LOOP_TRUE)]`), so the induction
on the fuel is over all entries from that frontier. -/
theorem sim_do {id : Nat} {ct : Bool} {body pre rest : S} (hpre : pre.isNil = true)
    (hbody : Sim R body) (hrest : Sim R rest) : Sim R (.doS id ct body pre rest) := by
  intro n F hE
  cases isNil_eq hpre
  have hB := fun k => hbody k (F ++ [⟨id, some kLOOP_TRUE⟩])
  generalize hres : analyze Q.live (.doS id ct body .nil rest) F = res at hE ⊢
  simp only [analyze, withPre, nil_isNil, live_pre, Bool.not_true, Bool.and_false,
    Bool.false_eq_true, if_false] at hres
  generalize analyze Q.live body (F ++ [⟨id, some kLOOP_TRUE⟩]) = rb at hres hB
  rw [← hres] at hE
  have hr := (hasE_cont hE).1
  simp only [hasE_append] at hr
  suffices h : ∀ k a, InFr a (F ++ [⟨id, some kLOOP_TRUE⟩]) → ∀ o,
      Ends R a (exec k .stmt false (.doS id ct body .nil rest) o) res from
    fun a ha => h n a (inFr_mono ha fun _ => List.mem_append_left _)
  intro k
  induction k with
  | zero => exact fun _ _ _ => run_stop
  | succ k ihk =>
    intro a ha o
    have hexit := fun f hf o => hres ▸ sim_rest (hrest k) stops_live hE (inFr_self (f := f) hf) o
    unfold exec
    refine ends_afterBody (hB k hr.1 a ha o) (fun x _ hx o' => ?_)
      fun s hs hb => hexit _ (dealLoop_brk (F := rb.F) s hs hb)
    refine run_nil_bind (run_tick_bind (inFr_link hx (dealLoop_back hr.2)) nofun fun _ =>
      run_choose (ihk _ (inFr_self (List.mem_append_right _ (.head _)))) fun hct => ?_)
    subst hct
    exact hexit _ (dealLoop_false (F := rb.F))

theorem straight_inF0 {s : S} (h : straight s = true) : inF0 s = true := by
  induction s with
  | nil => rfl
  | simple id rest ih | decl id rest ih => exact ih h
  | _ => cases h

theorem analyze_straight_sp {q : Q} {s : S} (h : straight s = true) : ∀ F, (analyze q s F).sp = [] := by
  induction s with
  | nil => exact fun _ => rfl
  | simple id rest ih | decl id rest ih => exact fun _ => ih h _
  | _ => cases h

theorem forTail_sp {Fb : List Fr} {lsp : List Sp} {ru rq : Em} : ∀ s ∈ lsp, s ∈ (forTail Fb lsp ru rq).sp := by
  intro s hs
  unfold forTail
  split
  · exact hs
  · exact List.mem_append_left _ (List.mem_append_left _ hs)

theorem forTail_ne {Fb : List Fr} {lsp : List Sp} {ru rq : Em} (h : Fb ≠ []) :
    (forTail Fb lsp ru rq).F = rq.F ∧ (forTail Fb lsp ru rq).es = ru.es ++ rq.es := by
  cases Fb with
  | nil => exact absurd rfl h
  | cons _ _ => exact ⟨rfl, rfl⟩

/-- The loop proper is the statement with `init = nil`; it is re-entered from update_body, so
the induction on the fuel is over entries from the frontier `init` leaves and from the one update_body
leaves.  update_body and the re-evaluation of condition_prebody only count (`forTail`) when something
falls out of the body. -/
theorem sim_for {id : Nat} {ct : Bool} {init pre upd body rest : S} (hpre : straight pre = true)
    (hupd : straight upd = true) (hinit : Sim R init) (hP : Sim R pre) (hU : Sim R upd) (hbody : Sim R body)
    (hrest : Sim R rest) : Sim R (.forS id ct init pre upd body rest) := by
  intro n F hE a ha o
  generalize hres : analyze Q.live (.forS id ct init pre upd body rest) F = res at hE ⊢
  simp only [analyze, live_forCont, if_true] at hres
  have hI := fun k => hinit k F
  generalize analyze Q.live init F = r1 at hres hI
  have hP1 := fun k => hP k r1.F
  have hsp1 : (analyze Q.live pre r1.F).sp = [] := analyze_straight_sp hpre _
  generalize analyze Q.live pre r1.F = rp at hres hP1 hsp1
  have hB := fun k h => hbody k [⟨id, some kLOOP_TRUE⟩] h (some (id : Int)) (inFr_self (.head _))
  generalize analyze Q.live body [⟨id, some kLOOP_TRUE⟩] = rb at hres hB
  have hU1 := fun k => hU k (rb.F ++ conts rb.sp)
  have hspu : (analyze Q.live upd (rb.F ++ conts rb.sp)).sp = [] := analyze_straight_sp hupd _
  generalize analyze Q.live upd (rb.F ++ conts rb.sp) = ru at hres hU1 hspu
  have hP2 := fun k => hP k ru.F
  have hsp2 : (analyze Q.live pre ru.F).sp = [] := analyze_straight_sp hpre _
  generalize analyze Q.live pre ru.F = rq at hres hP2 hsp2
  have h2ne := forTail_ne (Fb := rb.F ++ conts rb.sp) (lsp := nonConts rb.sp) (ru := ru) (rq := rq)
  have h2sp := forTail_sp (Fb := rb.F ++ conts rb.sp) (lsp := nonConts rb.sp) (ru := ru) (rq := rq)
  generalize forTail (rb.F ++ conts rb.sp) (nonConts rb.sp) ru rq = r2 at hres h2ne h2sp
  rw [← hres] at hE
  have hr := (hasE_cont hE).1
  simp only [hasE_append] at hr
  obtain ⟨⟨⟨⟨he1, hep⟩, heb⟩, he2⟩, hd⟩ := hr
  have hback := dealLoop_back hd
  have htail : rb.F ++ conts rb.sp ≠ [] → HasE R ru.es ∧ HasE R rq.es ∧ ∀ f ∈ rq.F, R (f.id : Int) id := by
    intro hne
    rw [(h2ne hne).2, hasE_append] at he2
    rw [(h2ne hne).1] at hback
    exact ⟨he2.1, he2.2, fun f hf => hback f (List.mem_append_left _ (List.mem_append_left _ hf))⟩
  have hloop : ∀ k a, (InFr a r1.F ∨ (rb.F ++ conts rb.sp ≠ [] ∧ InFr a ru.F)) → ∀ o,
      Ends R a (exec k .stmt false (.forS id ct .nil pre upd body rest) o) res := by
    intro k
    induction k with
    | zero => exact fun _ _ _ => run_stop
    | succ k ihk =>
      intro a ha o
      have hexit := fun f hf o => hres ▸ sim_rest (hrest k) stops_live hE (inFr_self (f := f) hf) o
      unfold exec
      obtain ⟨rc, hrc, hsp, hG⟩ : ∃ rc, Ends R a (exec k .stmt false pre o) rc ∧ rc.sp = [] ∧
          ∀ f ∈ rc.F, R (f.id : Int) id := by
        rcases ha with ha | ⟨hne, ha⟩
        · exact ⟨rp, hP1 k hep a ha o, hsp1, fun f hf =>
            hback f (List.mem_append_left _ (List.mem_append_right _ hf))⟩
        · exact ⟨rq, hP2 k (htail hne).2.1 a ha o, hsp2, (htail hne).2.2⟩
      refine run_nil_bind (ends_seq hrc (by simp [hsp]) fun x hx _ => run_tick_bind (inFr_link hx hG) nofun fun _ =>
        run_choose (fun o' => ?_) fun hct => ?_)
      · refine ends_afterBody (hB k heb o') (fun x hs hx o2 => ?_) fun s hs hb =>
          hexit _ (dealLoop_brk (F := r2.F ++ rp.F) s (h2sp s (List.mem_filter.2 ⟨hs, hb⟩)) hb)
        -- the body was entered from the step `id`, so it ends after some step `x`: the frontier is not empty
        obtain ⟨x, rfl⟩ := Option.isSome_iff_exists.1 (hs rfl)
        have hne : rb.F ++ conts rb.sp ≠ [] := by
          obtain ⟨_, hf, _⟩ := hx
          exact List.ne_nil_of_mem hf
        exact ends_seq (hU1 k (htail hne).1 _ hx o2) (by simp [hspu]) fun _ hin => ihk _ (.inr ⟨hne, hin⟩)
      · subst hct
        exact hexit _ (dealLoop_false (F := r2.F ++ rp.F))
  cases n with
  | zero => exact run_stop
  | succ n =>
    rw [exec_forS_init]
    exact ends_seq (hI n he1 a ha o) (fun s hs => hres ▸ cont_sp s (List.mem_append_left _ hs)) fun x hin1 =>
      hloop _ x (.inl hin1)

theorem sim_all {s : S} (hin : inF0 s = true) : Sim R s := by
  induction s with
  | nil => exact sim_of_succ fun _ _ _ _ ha _ => run_nil ha
  | simple id rest ih | decl id rest ih =>
    refine sim_of_succ fun n F hE a ha o => ?_
    unfold exec
    simp only [analyze, Em.andThen, List.nil_append, hasE_append, hasE_link] at hE ⊢
    exact run_tick_bind (inFr_link ha hE.1) nofun (ih hin n _ hE.2 _ (inFr_self (.head _)))
  | ifS id thn els rest iht ihe ihr =>
    unfold inF0 at hin
    simp only [Bool.and_eq_true] at hin
    exact sim_if (iht hin.1.1) (ihe hin.1.2) (ihr hin.2)
  | whileS id ct pre body els rest _ ihb ihe ihr =>
    unfold inF0 at hin
    simp only [Bool.and_eq_true] at hin
    exact sim_while hin.1.1.1 (ihb hin.1.1.2) (ihe hin.1.2) (ihr hin.2)
  | doS id ct body pre rest ihb _ ihr =>
    unfold inF0 at hin
    simp only [Bool.and_eq_true] at hin
    exact sim_do hin.1.1 (ihb hin.1.2) (ihr hin.2)
  | forS id ct init pre upd body rest ihi ihp ihu ihb ihr =>
    unfold inF0 at hin
    simp only [Bool.and_eq_true] at hin
    obtain ⟨⟨⟨⟨hinit, hpre⟩, hupd⟩, hbody⟩, hrest⟩ := hin
    exact sim_for hpre hupd (ihi hinit) (ihp (straight_inF0 hpre)) (ihu (straight_inF0 hupd)) (ihb hbody)
      (ihr hrest)
  -- a jump is a run of one step, which the analysis returns as a pending special (a `return`: links to the exit node)
  | brk id rest | cont id rest =>
    exact sim_of_succ fun n F hE a ha o => run_one (inFr_link ha (hasE_link.1 hE)) ⟨_, .head _, rfl, rfl⟩
  | ret id rest =>
    refine sim_of_succ fun n F hE a ha o => ?_
    have hE := hasE_append.1 hE
    exact run_one (inFr_link ha (hasE_link.1 hE.1)) ⟨_, rfl, hE.2 (id, -1, kRETURN) (.head _)⟩
  | _ => cases hin

theorem run_sim (params body : S) (hp : inF0 params = true) (hb : inF0 body = true)
    (hE : HasE R (emitted Q.live params body).es) (n : Nat) (o : List Bool) :
    Ends R none (runCtl n params body o) (emitted Q.live params body) := by
  simp only [emitted, hasE_append] at hE
  exact ends_seq (sim_all hp n [] hE.1.1 none trivial o) (fun _ => List.mem_append_left _) fun _ hin _ =>
    ends_mono (sim_all hb n _ hE.1.2 _ hin _) (fun _ hf => hf) fun _ => List.mem_append_right _

end

theorem hasEdge_pairs {g : List Edge} {a : Nat} {b : Int} (h : hasEdge g a b = true) :
    ((a : Int), b) ∈ edgePairs g := by
  unfold hasEdge at h
  rw [List.any_eq_true] at h
  obtain ⟨e, he, hab⟩ := h
  simp only [Bool.and_eq_true, beq_iff_eq] at hab
  unfold edgePairs
  exact List.mem_map.2 ⟨e, he, by rw [hab.1, hab.2]⟩

theorem addEdge_mono {g : List Edge} {e : Edge} {p : Int × Int} (h : p ∈ edgePairs g) :
    p ∈ edgePairs (addEdge g e) := by
  unfold addEdge
  split
  · exact h
  · split
    · exact h
    · split
      · exact h
      · unfold edgePairs at h ⊢
        rw [List.map_append]
        exact List.mem_append.2 (Or.inl h)

theorem addEdge_has (g : List Edge) (e : Edge) : hasE (edgePairs (addEdge g e)) (e.1 : Int) e.2.1 = true := by
  unfold hasE addEdge
  by_cases h1 : ((e.1 : Int) == e.2.1) = true
  · simp [h1]
  · have hneg : ¬ ((e.1 : Int) < 0) := Int.not_lt.2 (Int.natCast_nonneg _)
    simp only [h1, hneg, Bool.false_eq_true, if_false, Bool.false_or, List.contains_iff_mem]
    split
    · rename_i h3; exact hasEdge_pairs h3
    · unfold edgePairs
      rw [List.map_append]
      exact List.mem_append.2 (Or.inr (by simp))

theorem hasE_mono {E E' : List (Int × Int)} {a b : Int} (h : ∀ p ∈ E, p ∈ E') (hab : hasE E a b = true) :
    hasE E' a b = true := by
  simp only [hasE, Bool.or_eq_true, List.contains_iff_mem] at hab ⊢
  exact hab.imp_right (h _)

theorem foldl_addEdge_mono (es : List Edge) : ∀ (g : List Edge) (p : Int × Int), p ∈ edgePairs g →
    p ∈ edgePairs (es.foldl addEdge g) := by
  induction es with
  | nil => intro g p h; exact h
  | cons e es ih => intro g p h; exact ih _ p (addEdge_mono h)

theorem foldl_addEdge_has (es : List Edge) : ∀ (g : List Edge), ∀ e ∈ es,
    hasE (edgePairs (es.foldl addEdge g)) (e.1 : Int) e.2.1 = true := by
  induction es with
  | nil => intro g e he; cases he
  | cons e0 es ih =>
    intro g e he
    rcases List.mem_cons.1 he with rfl | he
    · exact hasE_mono (foldl_addEdge_mono es _) (addEdge_has g e)
    · exact ih _ e he

theorem build_has (es : List Edge) : ∀ e ∈ es, hasE (edgePairs (build es)) (e.1 : Int) e.2.1 = true :=
  foldl_addEdge_has es []

end LianVerif.Cfg
