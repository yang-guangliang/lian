/-
`add_main_func` (model `MainFunc.addMainFunc`) on a table that is a level of the grammar. The idea:
`split` is followed one row at a time (`split_cons`), and both of its halves are again levels
(`split_shape`): the kept rows at the top, the moved rows inside the new block. The clauses of `WFCore`,
`top_decl`, `ordered` and `one_init` then follow from where the rows of the result come from
(`mem_addMainFunc_iff`) and from the parents a level can contain (`Shape.parent_cases`).
-/
import LianVerif.Model.MainFunc
import LianVerif.Proofs.Flatten

namespace LianVerif.Gir
open LianVerif.MainFunc

theorem Shape.parent_cases {p : Nat} {last : Option Row} {rows : Rows} (h : Shape p last rows) :
    ∀ r ∈ rows, r.parent = p ∨ (∃ o, last = some o ∧ r.parent = o.id) ∨ r.parent ∈ defIds rows := by
  induction h with
  | nil => nofun
  | @stmt p last r rest hm hp _ ih =>
    intro x hx
    rcases List.mem_cons.1 hx with rfl | hx
    · exact .inl hp
    · rcases ih x hx with h | ⟨o, ho, h⟩ | h
      · exact .inl h
      · cases ho
        exact .inr (.inr (mem_defIds.2 ⟨_, List.mem_cons_self, (isMarker_false_iff.1 hm).2, h.symm⟩))
      · exact .inr (.inr (defIds_mono (fun s hs => List.mem_cons_of_mem _ hs) h))
  | @block p o s e inner rest hs he hid hsp hep ha _ _ ih1 ih2 =>
    intro x hx
    simp only [List.mem_cons, List.mem_append] at hx
    rcases hx with rfl | hx | rfl | hx
    · exact .inr (.inl ⟨o, rfl, hsp⟩)
    · rcases ih1 x hx with h | ⟨o', ho', _⟩ | h
      · exact .inr (.inr (mem_defIds.2 ⟨_, List.mem_cons_self, isStart_not_isEnd hs, h.symm⟩))
      · cases ho'
      · exact .inr (.inr (defIds_mono (fun t ht => by simp [ht]) h))
    · exact .inr (.inl ⟨o, rfl, hep⟩)
    · rcases ih2 x hx with h | h | h
      · exact .inl h
      · exact .inr (.inl h)
      · exact .inr (.inr (defIds_mono (fun t ht => by simp [ht]) h))

theorem Shape.parent_ne_zero {p : Nat} {last : Option Row} {rows : Rows} (h : Shape p last rows) (hp : p ≠ 0)
    (hl : ∀ o, last = some o → o.id ≠ 0) (hpos : ∀ r ∈ rows, r.id ≠ 0) : ∀ r ∈ rows, r.parent ≠ 0 := by
  intro r hr
  rcases Shape.parent_cases h r hr with h1 | ⟨o, ho, h1⟩ | h1
  · rwa [h1]
  · rw [h1]; exact hl o ho
  · obtain ⟨s, hs, -, e⟩ := mem_defIds.1 h1
    rw [← e]; exact hpos s hs

theorem reparent_id (b : Nat) (y : Row) : (reparent b y).id = y.id := by simp only [reparent]; split <;> rfl
theorem reparent_op (b : Nat) (y : Row) : (reparent b y).op = y.op := by simp only [reparent]; split <;> rfl
theorem reparent_attrs (b : Nat) (y : Row) : (reparent b y).attrs = y.attrs := by
  simp only [reparent]; split <;> rfl
theorem reparent_isEnd (b : Nat) (y : Row) : (reparent b y).isEnd = y.isEnd := by
  simp only [Row.isEnd, reparent_op]
theorem reparent_isMarker (b : Nat) (y : Row) : (reparent b y).isMarker = y.isMarker := by
  simp only [Row.isMarker, Row.isStart, Row.isEnd, reparent_op]

theorem reparent_nz {b : Nat} {r : Row} (h : r.parent ≠ 0) : reparent b r = r := by
  simp [reparent, h]

theorem reparent_top {b : Nat} {r : Row} (h : r.parent = 0) : (reparent b r).parent = b := by
  simp [reparent, h]

theorem reparent_parent_ne {b : Nat} (hb : b ≠ 0) (r : Row) : (reparent b r).parent ≠ 0 := by
  by_cases h : r.parent = 0
  · rwa [reparent_top h]
  · rwa [reparent_nz h]

theorem map_reparent_nz {b : Nat} {rows : Rows} (h : ∀ r ∈ rows, r.parent ≠ 0) :
    rows.map (reparent b) = rows := by
  rw [List.map_congr_left fun r hr => reparent_nz (b := b) (h r hr), List.map_id']

/-- the flag `split` carries past the row `r`: `r` goes to `top_stmts` -/
def moves (P : Params) (moving : Bool) (r : Row) : Bool :=
  if r.parent == 0 then !MainFunc.keepsTop P r.op else moving

theorem split_cons (P : Params) (moving : Bool) (r : Row) (rest : Rows) :
    split P moving (r :: rest) =
      if moves P moving r then ((split P true rest).1, r :: (split P true rest).2)
      else (r :: (split P false rest).1, (split P false rest).2) := by
  rw [split, moves]
  split
  · cases MainFunc.keepsTop P r.op <;> rfl
  · cases moving <;> rfl

theorem moves_nz {P : Params} {moving : Bool} {r : Row} (h : r.parent ≠ 0) : moves P moving r = moving := by
  simp [moves, h]

theorem split_nz (P : Params) (ys : Rows) : ∀ (xs : Rows) (moving : Bool), (∀ r ∈ xs, r.parent ≠ 0) →
    split P moving (xs ++ ys) =
      if moving then ((split P true ys).1, xs ++ (split P true ys).2)
      else (xs ++ (split P false ys).1, (split P false ys).2)
  | [], moving, _ => by cases moving <;> rfl
  | r :: rest, moving, h => by
    have ih := split_nz P ys rest moving fun x hx => h x (List.mem_cons_of_mem _ hx)
    rw [List.cons_append, split_cons, moves_nz (h r List.mem_cons_self)]
    cases moving <;> simp_all

theorem split_perm (P : Params) : ∀ (rows : Rows) (moving : Bool),
    ((split P moving rows).1 ++ (split P moving rows).2).Perm rows
  | [], _ => .refl _
  | x :: rest, moving => by
    rw [split_cons]
    split
    · exact List.perm_middle.trans ((split_perm P rest true).cons x)
    · exact (split_perm P rest false).cons x

theorem split_mem (P : Params) (rows : Rows) (moving : Bool) (r : Row) :
    (r ∈ (split P moving rows).1 ∨ r ∈ (split P moving rows).2) ↔ r ∈ rows := by
  rw [← List.mem_append]
  exact (split_perm P rows moving).mem_iff

theorem split_defIds_perm (P : Params) (rows : Rows) (moving : Bool) :
    (defIds (split P moving rows).1 ++ defIds (split P moving rows).2).Perm (defIds rows) := by
  rw [← defIds_append]
  exact ((split_perm P rows moving).filter _).map _

theorem split_sublist (P : Params) : ∀ (rows : Rows) (moving : Bool),
    (split P moving rows).1.Sublist rows ∧ (split P moving rows).2.Sublist rows
  | [], _ => ⟨.slnil, .slnil⟩
  | x :: rest, moving => by
    rw [split_cons]
    split
    · exact ⟨(split_sublist P rest true).1.cons x, (split_sublist P rest true).2.cons_cons x⟩
    · exact ⟨(split_sublist P rest false).1.cons_cons x, (split_sublist P rest false).2.cons x⟩

theorem split_reg_top (P : Params) : ∀ (rows : Rows) (moving : Bool),
    ∀ r ∈ (split P moving rows).1, r.parent = 0 → MainFunc.keepsTop P r.op = true
  | [], _, _, hr, _ => nomatch hr
  | x :: rest, moving, r, hr, hp => by
    rw [split_cons] at hr
    split at hr
    · exact split_reg_top P rest true r hr hp
    · rename_i hm
      rcases List.mem_cons.1 hr with rfl | hr
      · simpa [moves, hp] using hm
      · exact split_reg_top P rest false r hr hp

/-- The pending owner `last` stays with the half `moving` selects; the other half starts with a
statement (or is empty). `p` is an index of `Shape`, so the induction needs it free: hence the premise `p = 0`. -/
theorem split_shape (P : Params) (b : Nat) {p : Nat} {last : Option Row} {rows : Rows}
    (h : Shape p last rows) :
    p = 0 → (∀ o, last = some o → o.id ≠ 0) → (∀ r ∈ rows, r.id ≠ 0) →
    ∀ moving : Bool,
      Shape 0 (if moving then none else last) (split P moving rows).1 ∧
      Shape b (if moving then last.map (reparent b) else none) ((split P moving rows).2.map (reparent b)) := by
  induction h with
  | nil => exact fun _ _ _ _ => ⟨.nil, .nil⟩
  | @stmt p last r rest hm hp _ ih =>
    rintro rfl - hpos moving
    have ih := ih rfl (fun o ho => by cases ho; exact hpos _ List.mem_cons_self)
      fun x hx => hpos x (List.mem_cons_of_mem _ hx)
    rw [split_cons]
    cases moves P moving r with
    | true =>
      obtain ⟨h1, h2⟩ := ih true
      exact ⟨h1.of_none _, .stmt (by rwa [reparent_isMarker]) (reparent_top hp) h2⟩
    | false =>
      obtain ⟨h1, h2⟩ := ih false
      exact ⟨.stmt hm hp h1, h2.of_none _⟩
  | @block p o s e inner rest hs he hid hsp hep ha hin _ _ ih2 =>
    rintro rfl hlast hpos moving
    have ho : o.id ≠ 0 := hlast o rfl
    have hnz : ∀ x ∈ s :: (inner ++ [e]), x.parent ≠ 0 :=
      List.forall_mem_cons.2 ⟨by rwa [hsp], List.forall_mem_append.2
        ⟨hin.parent_ne_zero (hpos s List.mem_cons_self) nofun fun y hy => hpos y (by simp [hy]),
          List.forall_mem_singleton.2 (by rwa [hep])⟩⟩
    obtain ⟨h1, h2⟩ := ih2 rfl hlast (fun x hx => hpos x (by simp [hx])) moving
    rw [show s :: (inner ++ e :: rest) = (s :: (inner ++ [e])) ++ rest by simp, split_nz P rest _ moving hnz]
    cases moving with
    | true =>
      refine ⟨h1, ?_⟩
      show Shape b (some (reparent b o)) (((s :: (inner ++ [e])) ++ (split P true rest).2).map (reparent b))
      rw [List.map_append, map_reparent_nz hnz, List.cons_append, List.append_assoc]
      exact .block hs he hid (by rwa [reparent_id]) (by rwa [reparent_id])
        (by rwa [Row.hasIntAttr, reparent_attrs]) hin h2
    | false =>
      refine ⟨?_, h2⟩
      simp only [Bool.false_eq_true, if_false, List.cons_append, List.append_assoc]
      exact .block hs he hid hsp hep ha hin h1

theorem foldl_max_le_iff (rows : Rows) (k : Nat) : ∀ m,
    rows.foldl (fun m r => max m (r.id + 1)) m ≤ k ↔ m ≤ k ∧ ∀ r ∈ rows, r.id < k := by
  induction rows with
  | nil => simp
  | cons x rest ih =>
    intro m
    simp [ih, Nat.max_le, and_assoc, Nat.add_one_le_iff]

theorem nextId_le_iff {rows : Rows} {k : Nat} : nextId rows ≤ k ↔ ∀ r ∈ rows, r.id < k := by
  simp [nextId, foldl_max_le_iff]

theorem lt_nextId {rows : Rows} {r : Row} (h : r ∈ rows) : r.id < nextId rows :=
  nextId_le_iff.1 (Nat.le_refl _) r h

theorem nextId_congr {X Y : Rows} (h : ∀ r, r ∈ X ↔ r ∈ Y) : nextId X = nextId Y :=
  Nat.le_antisymm (nextId_le_iff.2 fun r hr => lt_nextId ((h r).1 hr))
    (nextId_le_iff.2 fun r hr => lt_nextId ((h r).2 hr))

theorem Seg.nextId {bk n n' rows} (h : Seg bk n n' rows) (hlt : n < n') : nextId rows = n' := by
  refine Nat.le_antisymm (nextId_le_iff.2 fun r hr => (h.bound r hr).2) ?_
  obtain ⟨r, hr, -, hid⟩ := mem_defIds.1
    (h.ids ▸ List.mem_range'_1.2 ⟨Nat.le_sub_one_of_lt hlt, by omega⟩ : n' - 1 ∈ defIds rows)
  have := lt_nextId hr
  omega

/-- the `%unit_init` row -/
def initDecl (P : Params) (m : Nat) : Row :=
  { op := "method_decl", id := m, parent := 0, attrs := [("name", .str P.unitInit), ("body", .int (m + 1))] }

theorem addMainFunc_eq (P : Params) (rows : Rows) :
    addMainFunc P rows =
      if (split P false rows).2.isEmpty then rows
      else (split P false rows).1 ++ [initDecl P (nextId rows), mkStart (nextId rows + 1) (nextId rows)] ++
        (split P false rows).2.map (reparent (nextId rows + 1)) ++ [mkEnd (nextId rows + 1) (nextId rows)] := by
  simp only [addMainFunc, initDecl]

theorem initDecl_not_marker (P : Params) (m : Nat) : (initDecl P m).isMarker = false := by
  simp [initDecl, Row.isMarker, Row.isStart, Row.isEnd, opStart, opEnd]

theorem keepsTop_method_decl (P : Params) : MainFunc.keepsTop P "method_decl" = true := by
  simp only [MainFunc.keepsTop, Bool.or_eq_true]
  left; decide +kernel

theorem addMainFunc_shape (P : Params) {rows : Rows} (h : Shape 0 none rows) (hpos : ∀ r ∈ rows, r.id ≠ 0) :
    Shape 0 none (addMainFunc P rows) := by
  rw [addMainFunc_eq]
  split
  · exact h
  · obtain ⟨h1, h2⟩ := split_shape P (nextId rows + 1) h rfl nofun hpos false
    rw [List.append_assoc, List.append_assoc]
    refine h1.append _ fun l => .stmt (initDecl_not_marker P _) rfl ?_
    exact .block (o := initDecl P (nextId rows)) (rest := []) (mkStart_isStart _ _) (mkEnd_isEnd _ _) rfl rfl rfl
      (hasIntAttr_of_mem (k := "body") (by simp [initDecl, mkStart])) h2 .nil

theorem mem_addMainFunc_iff {P : Params} {rows : Rows} {x : Row} :
    x ∈ addMainFunc P rows ↔ x ∈ (split P false rows).1 ∨ ((split P false rows).2 ≠ [] ∧
      (x = initDecl P (nextId rows) ∨ x = mkStart (nextId rows + 1) (nextId rows) ∨
        x ∈ (split P false rows).2.map (reparent (nextId rows + 1)) ∨
        x = mkEnd (nextId rows + 1) (nextId rows))) := by
  rw [addMainFunc_eq]
  split
  · rename_i he
    simp [← split_mem P rows false x, List.isEmpty_iff.1 he]
  · rename_i he
    rw [List.isEmpty_iff] at he
    simp [he]

theorem mem_addMainFunc {P : Params} {rows : Rows} {x : Row} (hx : x ∈ addMainFunc P rows) :
    x ∈ rows ∨ x = initDecl P (nextId rows) ∨ x = mkStart (nextId rows + 1) (nextId rows) ∨
    x = mkEnd (nextId rows + 1) (nextId rows) ∨
    ∃ y ∈ rows, x = reparent (nextId rows + 1) y := by
  rcases mem_addMainFunc_iff.1 hx with h | ⟨-, h | h | h | h⟩
  · exact .inl ((split_mem P rows false x).1 (.inl h))
  · exact .inr (.inl h)
  · exact .inr (.inr (.inl h))
  · obtain ⟨y, hy, rfl⟩ := List.mem_map.1 h
    exact .inr (.inr (.inr (.inr ⟨y, (split_mem P rows false y).1 (.inr hy), rfl⟩)))
  · exact .inr (.inr (.inr (.inl h)))

theorem mem_addMainFunc_of_nz {P : Params} {rows : Rows} {s : Row} (hs : s ∈ rows) (hp : s.parent ≠ 0) :
    s ∈ addMainFunc P rows :=
  mem_addMainFunc_iff.2 <| ((split_mem P rows false s).2 hs).imp_right fun h =>
    ⟨List.ne_nil_of_mem h, .inr (.inr (.inl (List.mem_map.2 ⟨s, h, reparent_nz hp⟩)))⟩

theorem mkStart_mem_addMainFunc {P : Params} {rows : Rows} (h : addMainFunc P rows ≠ rows) :
    mkStart (nextId rows + 1) (nextId rows) ∈ addMainFunc P rows :=
  mem_addMainFunc_iff.2 (.inr ⟨fun he => h (by rw [addMainFunc_eq, he]; rfl), .inr (.inl rfl)⟩)

theorem addMainFunc_top_decl (P : Params) (rows : Rows) :
    ∀ r ∈ addMainFunc P rows, r.isMarker = false → r.parent = 0 → MainFunc.keepsTop P r.op = true := by
  intro r hr hm hp
  rcases mem_addMainFunc_iff.1 hr with h | ⟨-, rfl | rfl | h | rfl⟩
  · exact split_reg_top P rows false r h hp
  · exact keepsTop_method_decl P
  · simp [Row.isMarker, mkStart_isStart] at hm
  · obtain ⟨y, -, rfl⟩ := List.mem_map.1 h
    exact absurd hp (reparent_parent_ne (Nat.succ_ne_zero _) y)
  · simp [Row.isMarker, mkEnd_isEnd] at hm

theorem addMainFunc_ids (P : Params) (rows : Rows) :
    addMainFunc P rows = rows ∨
    (defIds (addMainFunc P rows)).Perm (nextId rows :: (nextId rows + 1) :: defIds rows) := by
  rw [addMainFunc_eq]
  split
  · exact .inl rfl
  · right
    simp only [defIds_append, defIds_map (reparent_id _) (reparent_isEnd _), List.append_assoc,
      defIds_cons_of_not_end (isMarker_false_iff.1 (initDecl_not_marker P _)).2,
      defIds_cons_of_not_end (mkStart_not_end _ _), defIds_cons_of_end (mkEnd_isEnd _ _), defIds_nil,
      List.append_nil, List.cons_append, List.nil_append]
    exact (List.perm_middle.trans (List.perm_middle.cons _)).trans (((split_defIds_perm P rows false).cons _).cons _)

theorem addMainFunc_id_bound (P : Params) {rows : Rows} {lo : Nat} (hlo : ∀ r ∈ rows, lo ≤ r.id) :
    ∀ x ∈ addMainFunc P rows, lo ≤ x.id ∧ x.id < nextId rows + 2 := by
  intro x hx
  have hold : ∀ y ∈ rows, lo ≤ y.id ∧ y.id < nextId rows + 2 := fun y hy =>
    ⟨hlo y hy, Nat.lt_add_right 2 (lt_nextId hy)⟩
  -- the table is not empty, so `nextId` is above `lo`
  have hne : lo ≤ nextId rows := by
    cases rows with
    | nil => cases hx
    | cons r _ => exact Nat.le_trans (hlo r List.mem_cons_self) (Nat.le_of_lt (lt_nextId List.mem_cons_self))
  rcases mem_addMainFunc hx with h | rfl | rfl | rfl | ⟨y, hy, rfl⟩
  · exact hold x h
  · exact ⟨hne, by simp [initDecl]⟩
  · exact ⟨Nat.le_succ_of_le hne, by simp [mkStart]⟩
  · exact ⟨Nat.le_succ_of_le hne, by simp [mkEnd]⟩
  · rw [reparent_id]; exact hold y hy

theorem addMainFunc_bodies (P : Params) (bk : String → Bool) {rows : Rows} (hb : BodiesOK bk rows)
    (hpos : ∀ r ∈ rows, r.id ≠ 0) : BodiesOK bk (addMainFunc P rows) := by
  by_cases hsame : addMainFunc P rows = rows
  · rwa [hsame]
  intro x hx hm kv hkv hbk b hv
  -- a witness found in `rows` is still in the result: its parent is a positive id
  have keep : ∀ (r : Row), r ∈ rows → r.isMarker = false → kv ∈ r.attrs →
      ∃ s ∈ addMainFunc P rows, s.isStart = true ∧ (s.id : Int) = b ∧ s.parent = r.id := by
    intro r hr hmr hkvr
    obtain ⟨s, hs, h1, h2, h3⟩ := hb r hr hmr kv hkvr hbk b hv
    exact ⟨s, mem_addMainFunc_of_nz hs (h3 ▸ hpos r hr), h1, h2, h3⟩
  rcases mem_addMainFunc hx with h | rfl | rfl | rfl | ⟨y, hy, rfl⟩
  · exact keep x h hm hkv
  · simp only [initDecl, List.mem_cons, List.not_mem_nil, or_false] at hkv
    rcases hkv with rfl | rfl
    · cases hv
    · cases hv
      exact ⟨_, mkStart_mem_addMainFunc hsame, mkStart_isStart _ _, rfl, rfl⟩
  · simp [Row.isMarker, mkStart_isStart] at hm
  · simp [Row.isMarker, mkEnd_isEnd] at hm
  · rw [reparent_attrs] at hkv; rw [reparent_isMarker] at hm; rw [reparent_id]
    exact keep y hy hm hkv

theorem addMainFunc_nodup (P : Params) {rows : Rows} (hn : (defIds rows).Nodup) :
    (defIds (addMainFunc P rows)).Nodup := by
  rcases addMainFunc_ids P rows with h | h
  · rwa [h]
  · rw [h.nodup_iff]
    have hlt : ∀ i ∈ defIds rows, i < nextId rows := fun i hi => by
      obtain ⟨r, hr, -, rfl⟩ := mem_defIds.1 hi
      exact lt_nextId hr
    refine List.nodup_cons.2 ⟨?_, List.nodup_cons.2 ⟨fun hm => ?_, hn⟩⟩
    · simp only [List.mem_cons, not_or]
      exact ⟨Nat.ne_of_lt (Nat.lt_succ_self _), fun hm => Nat.lt_irrefl _ (hlt _ hm)⟩
    · exact Nat.not_succ_lt_self (hlt _ hm)

theorem addMainFunc_keys (P : Params) {rows : Rows} (hk : ∀ r ∈ rows, "unit_id" ∉ r.attrs.map Prod.fst) :
    ∀ r ∈ addMainFunc P rows, "unit_id" ∉ r.attrs.map Prod.fst := by
  intro x hx
  rcases mem_addMainFunc hx with h | rfl | rfl | rfl | ⟨y, hy, rfl⟩
  · exact hk x h
  · simp [initDecl]
  · simp [mkStart]
  · simp [mkEnd]
  · rw [reparent_attrs]; exact hk y hy

theorem addMainFunc_wfCore (P : Params) (bk : String → Bool) {rows : Rows} (h : WFCore bk rows) :
    WFCore bk (addMainFunc P rows) :=
  ⟨lvl_of_shape (addMainFunc_shape P h.shape h.ids_pos), addMainFunc_nodup P h.ids_unique,
   fun x hx => Nat.ne_of_gt (addMainFunc_id_bound P (lo := 1)
     (fun r hr => Nat.pos_of_ne_zero (h.ids_pos r hr)) x hx).1,
   addMainFunc_bodies P bk h.bodies_exist h.ids_pos⟩

/-- A kept row and a moved row never have the same parent: a parent other than 0 and the new block is
introduced in the same half (`Shape.parent_cases`), and the two halves introduce different ids. -/
theorem split_parent_ne (P : Params) {rows : Rows} (hshape : Shape 0 none rows)
    (hpos : ∀ r ∈ rows, r.id ≠ 0) (hnd : (defIds rows).Nodup) :
    ∀ a ∈ (split P false rows).1, ∀ x ∈ (split P false rows).2.map (reparent (nextId rows + 1)),
      a.parent ≠ x.parent := by
  intro a ha x hx hpar
  obtain ⟨h1, h2⟩ := split_shape P (nextId rows + 1) hshape rfl nofun hpos false
  have hsub := (split_sublist P rows false).1.subset
  have hx0 := reparent_parent_ne (Nat.succ_ne_zero (nextId rows))
  obtain ⟨y, -, rfl⟩ := List.mem_map.1 hx
  rcases Shape.parent_cases h1 a ha with h | ⟨_, ho, _⟩ | h
  · exact hx0 y (hpar ▸ h)
  · cases ho
  · obtain ⟨s, hs, -, hsid⟩ := mem_defIds.1 h
    rcases Shape.parent_cases h2 _ hx with h' | ⟨_, ho, _⟩ | h'
    · have := lt_nextId (hsub hs); rw [hsid, hpar, h'] at this; exact Nat.not_succ_lt_self this
    · cases ho
    · rw [defIds_map (reparent_id _) (reparent_isEnd _), ← hpar] at h'
      exact (List.nodup_append.1 ((split_defIds_perm P rows false).nodup_iff.2 hnd)).2.2 _ h _ h' rfl

theorem pairwise_ordRel_map_reparent (b : Nat) {l : Rows} (h : l.Pairwise IncRel) :
    (l.map (reparent b)).Pairwise OrdRel := by
  rw [List.pairwise_map]
  refine h.imp fun hab h1 h2 _ => ?_
  rw [reparent_isMarker] at h1 h2
  rw [reparent_id, reparent_id]
  exact hab (isMarker_false_iff.1 h1).2 (isMarker_false_iff.1 h2).2

/-- The hypotheses are what `flatten` returns. -/
theorem addMainFunc_ordered (P : Params) {rows : Rows} (hshape : Shape 0 none rows)
    (hpos : ∀ r ∈ rows, r.id ≠ 0) (hnd : (defIds rows).Nodup) (hinc : rows.Pairwise IncRel) :
    (addMainFunc P rows).Pairwise OrdRel := by
  rw [addMainFunc_eq]
  split
  · exact hinc.imp IncRel.ord
  · obtain ⟨hsub1, hsub2⟩ := split_sublist P rows false
    have hne := split_parent_ne P hshape hpos hnd
    have hmoved := pairwise_ordRel_map_reparent (nextId rows + 1) (hinc.sublist hsub2)
    have htop : ∀ x ∈ (split P false rows).2.map (reparent (nextId rows + 1)), x.parent ≠ 0 := fun x hx => by
      obtain ⟨y, -, rfl⟩ := List.mem_map.1 hx
      exact reparent_parent_ne (Nat.succ_ne_zero _) y
    simp only [List.append_assoc, List.cons_append, List.nil_append]
    refine List.pairwise_append.2 ⟨(hinc.sublist hsub1).imp IncRel.ord, ?_, ?_⟩
    · -- the wrapper: `%unit_init` has parent 0, the moved rows have not; markers are never compared
      refine .cons ?_ (.cons (fun _ _ => .of_marker_left (mkStart_isMarker ..)) (List.pairwise_append.2
        ⟨hmoved, List.pairwise_singleton .., fun _ _ y hy => ?_⟩))
      · rintro x (_ | ⟨_, hx⟩)
        · exact .of_marker_right (mkStart_isMarker ..)
        · rcases List.mem_append.1 hx with hx | hx
          · exact fun _ _ hpar => absurd hpar.symm (htop x hx)
          · exact List.mem_singleton.1 hx ▸ .of_marker_right (mkEnd_isMarker ..)
      · exact List.mem_singleton.1 hy ▸ .of_marker_right (mkEnd_isMarker ..)
    · -- a kept row: its id is below `nextId`, its parent is not that of a moved row
      rintro a ha x (_ | ⟨_, _ | ⟨_, hx⟩⟩)
      · exact fun _ _ _ => lt_nextId (hsub1.subset ha)
      · exact .of_marker_right (mkStart_isMarker ..)
      · rcases List.mem_append.1 hx with hx | hx
        · exact fun _ _ hpar => absurd hpar (hne a ha x hx)
        · exact List.mem_singleton.1 hx ▸ .of_marker_right (mkEnd_isMarker ..)

theorem addMainFunc_one_init (P : Params) (W : WfParams) {rows : Rows}
    (hfresh : ∀ r ∈ rows, isUnitInit W r = false) :
    ((addMainFunc P rows).filter (isUnitInit W)).length ≤ 1 := by
  rw [addMainFunc_eq]
  split
  · rw [List.filter_eq_nil_iff.2 fun r hr => by simp [hfresh r hr]]; simp
  · have h1 : (split P false rows).1.filter (isUnitInit W) = [] :=
      List.filter_eq_nil_iff.2 fun r hr => by simp [hfresh r ((split_mem P rows false r).1 (.inl hr))]
    have h2 : ((split P false rows).2.map (reparent (nextId rows + 1))).filter (isUnitInit W) = [] := by
      refine List.filter_eq_nil_iff.2 fun x hx => ?_
      obtain ⟨y, hy, rfl⟩ := List.mem_map.1 hx
      by_cases hy0 : y.parent = 0
      · simp [isUnitInit, reparent_top hy0]
      · simp [reparent_nz hy0, hfresh y ((split_mem P rows false y).1 (.inr hy))]
    have h3 : [mkStart (nextId rows + 1) (nextId rows)].filter (isUnitInit W) = [] := by
      simp [isUnitInit, mkStart, opStart]
    have h4 : [mkEnd (nextId rows + 1) (nextId rows)].filter (isUnitInit W) = [] := by
      simp [isUnitInit, mkEnd, opEnd]
    -- of the four parts and the two markers only the row `%unit_init` can pass the filter
    rw [show [initDecl P (nextId rows), mkStart (nextId rows + 1) (nextId rows)] =
      [initDecl P (nextId rows)] ++ [mkStart (nextId rows + 1) (nextId rows)] from rfl]
    simp only [List.filter_append, h1, h2, h3, h4, List.nil_append, List.append_nil]
    exact List.length_filter_le _ [_]

end LianVerif.Gir
