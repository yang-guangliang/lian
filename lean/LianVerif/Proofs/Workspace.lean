/-
The fill phase of workspace preparation stays strictly below the physical workspace directory `W`.

`Inv W base s`: the state agrees with a reference file system `base` outside `W`, holds no symbolic link
below `W`, and all names are plain.  Every path the fill phase writes to is `InWs`: the workspace option,
one plain name, then components that never climb above it.  Because `base` with everything below `W`
hidden already resolves the workspace option to `W` (`WsCtx`) and there is no link below `W`, such a
path can only lead to a place below `W` (`Walk.inside`), so `os.makedirs` on it creates directories
below `W` only (`mkdirs_inws`) and leaves the destination `Ready`; a copy into a `Ready` directory
writes below `W` only (`copyFile_step`).  Each operation is a `Step`: it keeps `Inv`, logs below `W`
only, removes no directory or link and leaves `cwdGone` as it was — the last two are what keeps `Ready`
destinations ready (a path that led to a directory still does).  `walk_good` and `fill_step` put the
steps together.
-/
import LianVerif.Proofs.Fs
import LianVerif.Model.Workspace

namespace LianVerif.Workspace
open LianVerif.Fs

variable {W : Path} {base : FS} {cfg : Cfg} {ws : RPath}

theorem strictlyInside_iff {p w : Path} : strictlyInside p w = true ↔ Below w p := by
  simp only [strictlyInside, Bool.and_eq_true, List.isPrefixOf_iff_prefix, bne_iff_ne, ne_eq, Below]
  exact ⟨fun ⟨h, hl⟩ => ⟨h, fun e => hl (by rw [e])⟩,
    fun ⟨h, hne⟩ => ⟨h, fun hl => hne (h.eq_of_length hl.symm).symm⟩⟩

theorem lookup_hideBelow_of_below {p : Path} (fs : FS) (h : Below W p) :
    lookup (hideBelow W fs) p = none := by
  rw [hideBelow, lookup_filter fs (fun x => !(strictlyInside x W)) h.ne_nil, strictlyInside_iff.2 h]
  rfl

theorem lookup_hideBelow_of_not_below {p : Path} (fs : FS) (h : ¬ Below W p) :
    lookup (hideBelow W fs) p = lookup fs p :=
  lookup_filter_of_true fs (fun x => !(strictlyInside x W)) fun _ => by
    simpa [← strictlyInside_iff] using h

theorem ext_hide_of_agree {base fs : FS}
    (h : ∀ p, ¬ Below W p → lookup fs p = lookup base p) : Ext (hideBelow W base) fs := by
  intro p
  by_cases hb : Below W p
  · rw [lookup_hideBelow_of_below _ hb]; exact ⟨nofun, fun _ => nofun⟩
  · rw [lookup_hideBelow_of_not_below _ hb, ← h p hb]; exact ⟨id, fun _ => id⟩

structure Inv (W : Path) (base : FS) (s : St) : Prop where
  agree : ∀ p, ¬ Below W p → lookup s.fs p = lookup base p
  lf : LinkFreeBelow W s.fs
  plainAll : ∀ e ∈ s.fs, ∀ c ∈ e.1, plain c = true

def LogExt (W : Path) (s s' : St) : Prop := ∀ e ∈ s'.log, e ∈ s.log ∨ Below W e.path

theorem LogExt.refl (W : Path) (s : St) : LogExt W s s := fun _ h => Or.inl h

theorem LogExt.trans {a b c : St} (h1 : LogExt W a b) (h2 : LogExt W b c) : LogExt W a c :=
  fun e he => (h2 e he).elim (h1 e) Or.inr

theorem LogExt.snoc {s s' : St} {e : Eff} (hl : s'.log = s.log ++ [e]) (he : Below W e.path) :
    LogExt W s s' := by
  intro x hx
  rw [hl, List.mem_append, List.mem_singleton] at hx
  exact hx.imp_right fun (h : x = e) => h ▸ he

structure Step (W : Path) (base : FS) (s s' : St) : Prop where
  inv : Inv W base s'
  log : LogExt W s s'
  ext : Ext s.fs s'.fs
  gone : s'.cwdGone = s.cwdGone

theorem Step.refl {s : St} (h : Inv W base s) : Step W base s s :=
  ⟨h, LogExt.refl _ _, Ext.refl _, rfl⟩

theorem Step.trans {a b c : St} (h1 : Step W base a b) (h2 : Step W base b c) :
    Step W base a c := ⟨h2.inv, h1.log.trans h2.log, h1.ext.trans h2.ext, h2.gone.trans h1.gone⟩

def Good (W : Path) (base : FS) (f : St → Res) : Prop :=
  ∀ s, Inv W base s → Step W base s (f s).1

theorem andThen_none {r : Res} {k : St → Res} (h : r.2 = none) : andThen r k = k r.1 := by
  obtain ⟨s, o⟩ := r; subst h; rfl

theorem andThen_some {r : Res} {k : St → Res} {x : Stop} (h : r.2 = some x) : andThen r k = r := by
  obtain ⟨s, o⟩ := r; subst h; rfl

section seqAll
variable {α : Type} {f : α → St → Res} {R : St → St → Prop} {I : St → Prop} (hrefl : ∀ s, I s → R s s)
  (htrans : ∀ {a b c}, R a b → R b c → R a c) (l : List α)
  (hf : ∀ a ∈ l, ∀ s, I s → R s (f a s).1 ∧ I (f a s).1) (s : St) (hs : I s)
include hrefl htrans hf hs

/-- one induction over the list for the three lemmas that follow -/
theorem seqAll_rel_aux : (R s (seqAll f l s).1 ∧ I (seqAll f l s).1) ∧
    ((seqAll f l s).2 = none →
      ∀ a ∈ l, ∃ t, R s t ∧ I t ∧ (f a t).2 = none ∧ R (f a t).1 (seqAll f l s).1) ∧
    (∀ x, (seqAll f l s).2 = some x → ∃ a ∈ l, ∃ t, R s t ∧ I t ∧ (f a t).2 = some x) := by
  induction l generalizing s with
  | nil => exact ⟨⟨hrefl s hs, hs⟩, fun _ a ha => by simp at ha, fun x hx => by simp [seqAll] at hx⟩
  | cons a r ih =>
    obtain ⟨h1, hs'⟩ := hf a (List.mem_cons_self ..) s hs
    rw [seqAll]
    cases hfa : f a s with
    | mk s' o =>
      rw [hfa] at h1 hs'
      cases o with
      | some x =>
        exact ⟨⟨h1, hs'⟩, fun hn => by simp at hn,
          fun y hy => ⟨a, List.mem_cons_self .., s, hrefl s hs, hs, by rw [hfa]; exact hy⟩⟩
      | none =>
        obtain ⟨⟨h2, hi⟩, h3, h4⟩ := ih (fun b hb => hf b (List.mem_cons_of_mem _ hb)) s' hs'
        refine ⟨⟨htrans h1 h2, hi⟩, fun hn b hb => ?_, fun x hx => ?_⟩
        · rcases List.mem_cons.1 hb with rfl | hb
          · exact ⟨s, hrefl s hs, hs, by rw [hfa], by rw [hfa]; exact h2⟩
          · obtain ⟨t, ht, hr⟩ := h3 hn b hb
            exact ⟨t, htrans h1 ht, hr⟩
        · obtain ⟨b, hb, t, ht, hr⟩ := h4 x hx
          exact ⟨b, List.mem_cons_of_mem _ hb, t, htrans h1 ht, hr⟩

theorem seqAll_rel : R s (seqAll f l s).1 ∧ I (seqAll f l s).1 := (seqAll_rel_aux hrefl htrans l hf s hs).1

theorem seqAll_rel_done (h : (seqAll f l s).2 = none) {a : α} (ha : a ∈ l) :
    ∃ t, R s t ∧ I t ∧ (f a t).2 = none ∧ R (f a t).1 (seqAll f l s).1 :=
  (seqAll_rel_aux hrefl htrans l hf s hs).2.1 h a ha

theorem seqAll_rel_stopped {x : Stop} (h : (seqAll f l s).2 = some x) :
    ∃ a ∈ l, ∃ t, R s t ∧ I t ∧ (f a t).2 = some x :=
  (seqAll_rel_aux hrefl htrans l hf s hs).2.2 x h

end seqAll

section
variable {α : Type} {f : α → St → Res} {P : St → Prop} (hP : ∀ s s', P s → Step W base s s' → P s')
  (l : List α) (h : ∀ a ∈ l, ∀ s, Inv W base s → P s → Step W base s (f a s).1)
include hP h

theorem step_keeps (a : α) (ha : a ∈ l) (s : St) (hi : Inv W base s ∧ P s) :
    Step W base s (f a s).1 ∧ Inv W base (f a s).1 ∧ P (f a s).1 :=
  have h1 := h a ha s hi.1 hi.2
  ⟨h1, h1.inv, hP _ _ hi.2 h1⟩

variable (s : St) (hs : Inv W base s) (hp : P s)
include hs hp

theorem step_seqAll : Step W base s (seqAll f l s).1 :=
  (seqAll_rel (R := Step W base) (fun _ hi => Step.refl hi.1) Step.trans l (step_keeps hP l h) s ⟨hs, hp⟩).1

theorem step_seqAll_stopped {x : Stop} (hx : (seqAll f l s).2 = some x) :
    ∃ a ∈ l, ∃ t, Step W base s t ∧ (Inv W base t ∧ P t) ∧ (f a t).2 = some x :=
  seqAll_rel_stopped (fun _ hi => Step.refl hi.1) Step.trans l (step_keeps hP l h) s ⟨hs, hp⟩ hx

theorem step_seqAll_done (hn : (seqAll f l s).2 = none) {a : α} (ha : a ∈ l) :
    ∃ t, Step W base s t ∧ (Inv W base t ∧ P t) ∧ (f a t).2 = none ∧ Step W base (f a t).1 (seqAll f l s).1 :=
  seqAll_rel_done (fun _ hi => Step.refl hi.1) Step.trans l (step_keeps hP l h) s ⟨hs, hp⟩ hn ha

end

theorem step_andThen {s : St} {r : Res} {k : St → Res}
    (h1 : Step W base s r.1) (h2 : r.2 = none → Inv W base r.1 → Step W base r.1 (k r.1).1) :
    Step W base s (andThen r k).1 := by
  cases hr : r.2 with
  | none => rw [andThen_none hr]; exact h1.trans (h2 hr h1.inv)
  | some x => rw [andThen_some hr]; exact h1

theorem good_seqAll {α : Type} {W : Path} {base : FS} {f : α → St → Res}
    (h : ∀ a, Good W base (f a)) (l : List α) : Good W base (seqAll f l) :=
  fun s hs => step_seqAll (P := fun _ => True) (fun _ _ _ _ => trivial) l (fun a _ s hs _ => h a s hs)
    s hs trivial

theorem good_andThen {W : Path} {base : FS} {f k : St → Res}
    (hf : Good W base f) (hk : Good W base k) : Good W base (fun s => andThen (f s) k) :=
  fun s hs => step_andThen (hf s hs) fun _ => hk _

def LeadsTo (cwd : Path) (s : St) (p : RPath) (d : Path) : Prop :=
  noCwd s p = false ∧ ∃ st, startOf s.fs cwd p = .ok st ∧
    resolveDir s.fs linkFuel st (dropTrailingEmpty p.comps) = .ok d

section leads
variable {cwd : Path} {s : St} {p : RPath} {q : Path}

theorem LeadsTo.step {s' : St} (h : LeadsTo cwd s p q) (hst : Step W base s s') :
    LeadsTo cwd s' p q := by
  obtain ⟨h1, st, h2, h3⟩ := h
  exact ⟨by simpa [noCwd, hst.gone] using h1, st, startOf_ext hst.ext h2, resolveDir_ext hst.ext h3⟩

theorem leadsTo_ofPath {A : Path} (h : resolveDir s.fs linkFuel [] A = .ok q) :
    LeadsTo cwd s (ofPath A) q :=
  ⟨rfl, [], rfl, by rw [linkFuel, resolveDir_dropTrailingEmpty]; exact h⟩

theorem mstat_dir_iff : mstat cwd s p = .ok (q, some .dir) ↔ LeadsTo cwd s p q := by
  unfold mstat LeadsTo stat
  cases noCwd s p with
  | true => simp
  | false =>
    cases startOf s.fs cwd p with
    | error e => simp
    | ok st => simp [linkFuel, resolve_dir_iff, resolveDir_dropTrailingEmpty]

theorem mstat_ofPath (cwd : Path) (s : St) (q : Path) :
    mstat cwd s (ofPath q) = resolve s.fs linkFuel true [] q := by
  simp [mstat, noCwd, ofPath, stat, startOf]

theorem mRealpath_of_mstat {n : Option Node} (h : mstat cwd s p = .ok (q, n)) : mRealpath cwd s p = .ok q := by
  unfold mstat at h
  unfold mRealpath
  split
  · rw [if_pos ‹_›] at h; cases h
  · rw [if_neg ‹_›] at h; rw [h]

theorem LeadsTo.listDir (h : LeadsTo cwd s p q) : mListDir cwd s p = .ok (q, childNames s.fs q) := by
  rw [mListDir, mstat_dir_iff.2 h]

theorem LeadsTo.stat_joinName (h : LeadsTo cwd s p q) (n : String) :
    ∃ st, resolveDir s.fs linkFuel st (dropTrailingEmpty p.comps) = .ok q ∧
      mstat cwd s (joinName p n) = resolve s.fs linkFuel true st (dropTrailingEmpty p.comps ++ [n]) ∧
      mlstat cwd s (joinName p n) = resolve s.fs linkFuel false st (dropTrailingEmpty p.comps ++ [n]) := by
  obtain ⟨hno, st, hst, hres⟩ := h
  have hno' : noCwd s (joinName p n) = false := by rw [joinName_eq]; exact hno
  have hst' : startOf s.fs cwd (joinName p n) = .ok st := by
    rw [startOf_abs_eq (p := p) (by rw [joinName_eq]), hst]
  refine ⟨st, hres, ?_, ?_⟩
  · simp only [mstat, hno', Bool.false_eq_true, if_false, stat, hst']; rw [joinName_eq]
  · simp only [mlstat, hno', Bool.false_eq_true, if_false, lstat, hst']; rw [joinName_eq]

theorem LeadsTo.mlstat_child {n : String} (h : LeadsTo cwd s p q) (hn : plain n = true) :
    mlstat cwd s (joinName p n) = .ok (q ++ [n], lookup s.fs (q ++ [n])) := by
  obtain ⟨st, hres, _, e⟩ := h.stat_joinName n
  rw [e]; exact resolve_snoc hn hres (Or.inl rfl)

theorem LeadsTo.mstat_child {n : String} (h : LeadsTo cwd s p q) (hn : plain n = true)
    (hl : ∀ t, lookup s.fs (q ++ [n]) ≠ some (.link t)) :
    mstat cwd s (joinName p n) = .ok (q ++ [n], lookup s.fs (q ++ [n])) := by
  obtain ⟨st, hres, e, _⟩ := h.stat_joinName n
  rw [e]; exact resolve_snoc hn hres (Or.inr hl)

theorem LeadsTo.mstat_dots {b : String} (h : LeadsTo cwd s p q) (hb : plain b = false) :
    ∃ q', mstat cwd s (joinName p b) = .ok (q', some .dir) := by
  obtain ⟨st, hres, e, _⟩ := h.stat_joinName b
  rw [e, linkFuel, resolve_concat, ← linkFuel, hres]
  rcases comp_cases b with hb' | rfl | hb'
  · exact ⟨q, by simp only [hb', if_true]⟩
  · exact ⟨q.dropLast, by simp [trivialComp]⟩
  · rw [hb] at hb'; cases hb'

theorem LeadsTo.child {n : String} (h : LeadsTo cwd s p q) (hn : plain n = true)
    (hl : lookup s.fs (q ++ [n]) = some .dir) : LeadsTo cwd s (joinName p n) (q ++ [n]) := by
  rw [← mstat_dir_iff, h.mstat_child hn (by simp [hl]), hl]

theorem mIsDir_iff : mIsDir cwd s p = true ↔ ∃ q, LeadsTo cwd s p q := by
  simp only [← mstat_dir_iff, mIsDir]
  split
  · rename_i q h; exact ⟨fun _ => ⟨q, h⟩, fun _ => rfl⟩
  · rename_i h; exact ⟨nofun, fun ⟨q, e⟩ => absurd e (h q)⟩

theorem mIsFile_iff : mIsFile cwd s p = true ↔ ∃ q x, mstat cwd s p = .ok (q, some (.file x)) := by
  unfold mIsFile
  split
  · rename_i q x h; exact ⟨fun _ => ⟨q, x, h⟩, fun _ => rfl⟩
  · rename_i h; exact ⟨nofun, fun ⟨q, x, e⟩ => absurd e (h q x)⟩

theorem mIsLink_iff : mIsLink cwd s p = true ↔ ∃ q t, mlstat cwd s p = .ok (q, some (.link t)) := by
  unfold mIsLink
  split
  · rename_i q t h; exact ⟨fun _ => ⟨q, t, h⟩, fun _ => rfl⟩
  · rename_i h; exact ⟨nofun, fun ⟨q, t, e⟩ => absurd e (h q t)⟩

end leads

theorem LeadsTo.child_of_isDir {cwd : Path} {s t : St} {top : RPath} {q : Path} {n : String}
    (hlead : LeadsTo cwd s top q) (hn : plain n = true) (hd : mIsDir cwd s (joinName top n) = true)
    (hst : Step W base s t) (hlk : ¬ mIsLink cwd t (joinName top n) = true) :
    LeadsTo cwd t (joinName top n) (q ++ [n]) := by
  have hl' := hlead.step hst
  obtain ⟨q', hq'⟩ := mIsDir_iff.1 hd
  have hq't := mstat_dir_iff.2 (hq'.step hst)
  rw [hl'.mstat_child hn fun x hx => hlk (mIsLink_iff.2 ⟨_, x, by rw [hl'.mlstat_child hn, hx]⟩)] at hq't
  simp only [Except.ok.injEq, Prod.mk.injEq] at hq't
  exact hq't.1 ▸ hq'.step hst

theorem set_step {s : St} (hs : Inv W base s) {p : Path} (hp : Below W p)
    (hpl : ∀ c ∈ p, plain c = true) {n : Node} (hn : ∀ t, n ≠ .link t)
    (hl : lookup s.fs p = none ∨ ∃ c, lookup s.fs p = some (.file c)) {e : Eff} (he : e.path = p) :
    Step W base s { s with fs := setNode s.fs p n, log := s.log ++ [e] } := by
  refine ⟨⟨fun q hq => ?agree, fun q t hq => ?lf, fun x hx c hc => ?plainAll⟩, LogExt.snoc rfl (he ▸ hp),
    fun q => ?ext, rfl⟩
  case agree => rw [lookup_setNode_ne _ _ _ (fun (e : q = p) => hq (e ▸ hp))]; exact hs.agree q hq
  case lf =>
    rw [lookup_setNode _ _ _ hq.ne_nil]
    split
    · exact fun h => hn t (Option.some.inj h)
    · exact hs.lf q t hq
  case plainAll =>
    rcases List.mem_append.1 hx with hx | hx
    · exact hs.plainAll x (List.mem_filter.1 hx).1 c hc
    · rw [List.mem_singleton.1 hx] at hc; exact hpl c hc
  case ext =>
    by_cases e : q = p
    · subst e; rcases hl with h | ⟨c, h⟩ <;> rw [h] <;> exact ⟨nofun, fun _ => nofun⟩
    · rw [lookup_setNode_ne _ _ _ e]; exact ⟨id, fun _ => id⟩

section mkdirStep
variable {s : St} {cur : Path} {c : String}

theorem mkdirStep_error (s : St) (e : Err) (c : String) : mkdirStep (s, .error e) c = (s, .error e) := rfl

theorem mkdirStep_skip (h : trivialComp c = true) : mkdirStep (s, .ok cur) c = (s, .ok cur) := by
  unfold mkdirStep; simp [h]

theorem mkdirStep_up : mkdirStep (s, .ok cur) ".." = (s, .ok cur.dropLast) := by
  unfold mkdirStep; simp [trivialComp]

theorem mkdirStep_plain (h : plain c = true) :
    mkdirStep (s, .ok cur) c =
      match lookup s.fs (cur ++ [c]) with
      | none =>
        ({ s with fs := setNode s.fs (cur ++ [c]) .dir, log := s.log ++ [.mkdir (cur ++ [c])] },
         .ok (cur ++ [c]))
      | some .dir => (s, .ok (cur ++ [c]))
      | some (.file _) => (s, .error .exist)
      | some (.link t) =>
        match resolveDir s.fs linkFuelPred (if t.abs then [] else cur) t.comps with
        | .ok q => (s, .ok q)
        | .error _ => (s, .error .exist) := by
  unfold mkdirStep; simp only [plain_not_trivial h, plain_not_dotdot h, Bool.false_eq_true, if_false]
  rfl

end mkdirStep

theorem foldl_mkdirStep_error (s : St) (e : Err) (comps : List String) :
    comps.foldl mkdirStep (s, .error e) = (s, .error e) := by
  induction comps with
  | nil => rfl
  | cons c r ih => exact ih

theorem mkdir_fold_exists (s : St) {comps : List String} {cur q : Path}
    (h : Walk s.fs linkFuel cur comps q) : comps.foldl mkdirStep (s, .ok cur) = (s, .ok q) := by
  generalize hf : linkFuel = f at h
  replace hf := hf.symm
  induction h with
  | nil => rfl
  | skip hc _ ih => rw [List.foldl_cons, mkdirStep_skip hc]; exact ih hf
  | up _ ih => rw [List.foldl_cons, mkdirStep_up]; exact ih hf
  | dir hc hl _ ih => rw [List.foldl_cons, mkdirStep_plain hc, hl]; exact ih hf
  | link hc hl h1 _ _ ih =>
    -- `makedirs` expands a link with `linkFuelPred`, the fuel a walk with `linkFuel` has left for it
    cases Nat.succ.inj hf
    rw [List.foldl_cons, mkdirStep_plain hc, hl]
    simp only [h1.to_resolveDir]
    exact ih rfl

theorem mkdir_fold_inside : ∀ (comps : List String) (s : St) (cur : Path) (d : Nat),
    Inv W base s → W <+: cur → (∀ x ∈ cur, plain x = true) → cur.length = W.length + d →
    safeComps d comps = true →
    Step W base s (comps.foldl mkdirStep (s, .ok cur)).1 ∧
    ∀ q, (comps.foldl mkdirStep (s, .ok cur)).2 = .ok q →
      Walk (comps.foldl mkdirStep (s, .ok cur)).1.fs linkFuel cur comps q := by
  intro comps
  induction comps with
  | nil => exact fun s cur d hs _ _ _ _ => ⟨Step.refl hs, fun q h => by cases h; exact .nil⟩
  | cons c r ih =>
    intro s cur d hs hw hpl hlen hsafe
    rw [List.foldl_cons]
    rcases comp_cases c with hc | rfl | hc
    · rw [mkdirStep_skip hc]; rw [safeComps_skip hc] at hsafe
      obtain ⟨h1, h2⟩ := ih s cur d hs hw hpl hlen hsafe
      exact ⟨h1, fun q hq => .skip hc (h2 q hq)⟩
    · cases d with
      | zero => simp [safeComps_up_zero] at hsafe
      | succ d =>
        obtain ⟨hw', hlen'⟩ := dropLast_inside hw hlen
        rw [mkdirStep_up]
        obtain ⟨h1, h2⟩ := ih s _ d hs hw' (fun x hx => hpl x (List.dropLast_subset _ hx)) hlen'
          (safeComps_up ▸ hsafe)
        exact ⟨h1, fun q hq => .up (h2 q hq)⟩
    · rw [safeComps_cons_plain hc] at hsafe
      have hb : Below W (cur ++ [c]) := below_append_singleton hw c
      have hpl' := forall_mem_snoc hpl hc
      have hlen' := length_snoc_inside hlen c
      rw [mkdirStep_plain hc]
      split
      -- made here, and still there at the end: later steps keep directories
      · have hstep := set_step hs hb hpl' (n := .dir) nofun (Or.inl ‹_›) (e := .mkdir (cur ++ [c])) rfl
        obtain ⟨h1, h2⟩ := ih _ _ _ hstep.inv hb.1 hpl' hlen' hsafe
        exact ⟨hstep.trans h1, fun q hq =>
          .dir hc ((h1.ext _).1 (lookup_setNode_self _ _ hb.ne_nil)) (h2 q hq)⟩
      · obtain ⟨h1, h2⟩ := ih s _ _ hs hb.1 hpl' hlen' hsafe
        exact ⟨h1, fun q hq => .dir hc ((h1.ext _).1 ‹_›) (h2 q hq)⟩
      · rw [foldl_mkdirStep_error]; exact ⟨Step.refl hs, fun q h => by cases h⟩
      · rename_i t hl; exact absurd hl (hs.lf _ t hb)

structure WsCtx (W : Path) (base : FS) (cwd : Path) (ws : RPath) : Prop where
  phys : PhysDir base W
  robust : resolveDir (hideBelow W base) linkFuel (if ws.abs then [] else cwd)
    (dropTrailingEmpty ws.comps) = .ok W

theorem Inv.physDir {s : St} (hs : Inv W base s) {d : Path} (hd : PhysDir base d)
    (hnb : ¬ Below W d) : PhysDir s.fs d :=
  ⟨hd.1, fun k hk => by
    rw [hs.agree _ fun h => hnb (h.trans_prefix (List.take_prefix _ _))]; exact hd.2 k hk⟩

theorem WsCtx.resolveWs {cwd : Path} {s : St}
    (ctx : WsCtx W base cwd ws) (hs : Inv W base s) :
    resolveDir s.fs linkFuel (if ws.abs then [] else cwd) (dropTrailingEmpty ws.comps) = .ok W :=
  resolveDir_ext (ext_hide_of_agree hs.agree) ctx.robust

/-- the paths the fill phase writes to -/
def InWs (ws p : RPath) : Prop :=
  p.abs = ws.abs ∧ ∃ t0 rest, p.comps = dropTrailingEmpty ws.comps ++ t0 :: rest ∧
    plain t0 = true ∧ safeComps 1 rest = true

structure Ready (W : Path) (cwd : Path) (s : St) (dst : RPath) (d : Path) : Prop where
  leads : LeadsTo cwd s dst d
  inside : W <+: d
  phys : PhysDir s.fs d

theorem Ready.step {cwd : Path} {s s' : St} {dst : RPath} {d : Path}
    (h : Ready W cwd s dst d) (hst : Step W base s s') : Ready W cwd s' dst d :=
  ⟨h.leads.step hst, h.inside, h.phys.ext hst.ext⟩

theorem mkdirs_inws {cwd : Path} {s : St} {p : RPath}
    (ctx : WsCtx W base cwd ws) (hs : Inv W base s) (hp : InWs ws p) :
    Step W base s (mkdirs cwd p s).1 ∧
    ∀ q, (mkdirs cwd p s).2 = .ok q → Ready W cwd (mkdirs cwd p s).1 p q := by
  obtain ⟨habs, t0, rest, hcomps, ht0, hsafe⟩ := hp
  unfold mkdirs
  split
  · exact ⟨Step.refl hs, fun q h => by cases h⟩
  · rename_i hno
    cases hst : startOf s.fs cwd p with
    | error e => exact ⟨Step.refl hs, fun q h => by cases h⟩
    | ok st =>
      have hstv : (if ws.abs then [] else cwd) = st := by rw [startOf_ok hst, habs]
      -- the part of the path that is the workspace option exists already
      have hws := ctx.resolveWs hs
      rw [hstv] at hws
      simp only [hcomps, List.foldl_append, mkdir_fold_exists s (Walk.of_resolveDir hws)]
      have hsafe0 : safeComps 0 (t0 :: rest) = true := by rw [safeComps_cons_plain ht0]; exact hsafe
      have hW := hs.physDir ctx.phys (not_below_self W)
      obtain ⟨h1, h2⟩ := mkdir_fold_inside (t0 :: rest) s W 0 hs (List.prefix_refl W) hW.1 rfl hsafe0
      refine ⟨h1, fun q hq => ?_⟩
      have hres := (h2 q hq).to_resolveDir
      refine ⟨⟨?_, st, startOf_ext h1.ext hst, ?_⟩,
        (h2 q hq).inside h1.inv.lf 0 (List.prefix_refl W) rfl hsafe0, (h2 q hq).phys (hW.ext h1.ext)⟩
      · rw [noCwd, h1.gone]; exact Bool.not_eq_true _ ▸ hno
      · rw [linkFuel, resolveDir_dropTrailingEmpty, hcomps, resolveDir_append, ← linkFuel,
          resolveDir_ext h1.ext hws]
        exact hres

def SafeTarget (W : Path) (s : St) (r : Except Err (Path × Option Node)) : Prop :=
  ∀ pd nd, r = .ok (pd, nd) → (nd = none ∨ ∃ c0, nd = some (.file c0)) →
    Below W pd ∧ (∀ x ∈ pd, plain x = true) ∧ lookup s.fs pd = nd

theorem copy2To_writes (cwd : Path) (src dst' : RPath) (s : St) :
    (copy2To cwd src dst' s).1 = s ∨ ∃ pd nd c e, mstat cwd s dst' = .ok (pd, nd) ∧
      (nd = none ∨ ∃ c0, nd = some (.file c0)) ∧ Eff.path e = pd ∧
      (copy2To cwd src dst' s).1 = { s with fs := setNode s.fs pd (.file c), log := s.log ++ [e] } := by
  unfold copy2To
  split
  · split
    · rename_i c _ _ pd nd hdst
      split
      · exact Or.inl rfl
      · split
        · exact Or.inr ⟨pd, none, c, .create pd, hdst, Or.inl rfl, rfl, rfl⟩
        · exact Or.inr ⟨pd, _, c, .overwrite pd, hdst, Or.inr ⟨_, rfl⟩, rfl, rfl⟩
        · exact Or.inl rfl
    · exact Or.inl rfl
  · exact Or.inl rfl
  · exact Or.inl rfl
  · exact Or.inl rfl

theorem copy2To_safe {s : St} (hs : Inv W base s) (cwd : Path)
    (src dst' : RPath) (hsafe : SafeTarget W s (mstat cwd s dst')) :
    Step W base s (copy2To cwd src dst' s).1 := by
  rcases copy2To_writes cwd src dst' s with h | ⟨pd, nd, c, e, hdst, hnd, he, h⟩ <;> rw [h]
  · exact Step.refl hs
  · obtain ⟨hb, hpl, hl⟩ := hsafe pd nd hdst hnd
    exact set_step hs hb hpl (fun _ h => Node.noConfusion h) (hl ▸ hnd) he

theorem Ready.safeTarget {cwd : Path} {s : St} {top : RPath} {q : Path}
    (h : Ready W cwd s top q) (hs : Inv W base s) (b : String) :
    SafeTarget W s (mstat cwd s (joinName top b)) := by
  intro pd nd hr hnd
  have hbel := below_append_singleton h.inside b
  cases hb : plain b with
  | false =>
    obtain ⟨q', e⟩ := h.leads.mstat_dots hb
    rw [e] at hr; cases hr
    exact hnd.elim nofun fun ⟨_, h⟩ => nomatch h
  | true =>
    rw [h.leads.mstat_child hb fun t => hs.lf _ t hbel] at hr
    cases hr
    exact ⟨hbel, forall_mem_snoc h.phys.1 hb, rfl⟩

theorem copy2_phys {s : St} (hs : Inv W base s) (cwd : Path) {d : Path}
    {c : String} (hd : PhysDir s.fs d) (hw : W <+: d) (hc : plain c = true) (src : RPath) :
    Step W base s (copy2 cwd src (ofPath (d ++ [c])) s).1 := by
  have hr : Ready W cwd s (ofPath d) d := ⟨leadsTo_ofPath (physDir_resolves _ hd), hw, hd⟩
  have hj : joinName (ofPath d) c = ofPath (d ++ [c]) := by
    rw [joinName_eq, ofPath, dropTrailingEmpty_of_plain hd.1]; rfl
  unfold copy2
  apply copy2To_safe hs
  split
  · -- the destination is an existing directory: copy into it
    rename_i hdir
    obtain ⟨q, hq⟩ := mIsDir_iff.1 hdir
    rw [← hj, ← mstat_dir_iff, hr.leads.mstat_child hc fun t => hs.lf _ t (below_append_singleton hw c)] at hq
    simp only [Except.ok.injEq, Prod.mk.injEq] at hq
    obtain ⟨rfl, hl⟩ := hq
    exact Ready.safeTarget ⟨hj ▸ hr.leads.child hc hl, (below_append_singleton hw c).1,
      physDir_snoc hd hc hl⟩ hs _
  · rw [← hj]; exact hr.safeTarget hs c

theorem Step.of_map_update {s : St} (hs : Inv W base s) (m : List (Path × Path)) :
    Step W base s { s with map := m } :=
  ⟨⟨hs.agree, hs.lf, hs.plainAll⟩, LogExt.refl _ _, Ext.refl _, rfl⟩

theorem plain_basename_of_isFile {cwd : Path} {s : St} {p : RPath} (h : mIsFile cwd s p = true) :
    plain (basename p) = true := by
  obtain ⟨q, x, hm⟩ := mIsFile_iff.1 h
  unfold mstat stat at hm
  split at hm
  · cases hm
  · split at hm
    · cases hm
    · obtain ⟨c, hc, hp⟩ := resolve_file_last_plain hm
      simp [basename, hc, hp]

theorem copyFile_step {s : St} (hs : Inv W base s) {dst : RPath}
    {d : Path} (hr : Ready W cfg.cwd s dst d) {src : RPath} (hb : plain (basename src) = true) :
    Step W base s (copyFile cfg src dst s).1 := by
  unfold copyFile
  simp only
  split
  · exact Step.refl hs
  · rw [mRealpath_of_mstat
      (hr.leads.mstat_child hb fun t => hs.lf _ t (below_append_singleton hr.inside _))]
    cases mRealpath cfg.cwd s src with
    | error e => exact Step.refl hs
    | ok srcFile =>
      exact step_andThen (copy2_phys hs cfg.cwd hr.phys hr.inside hb _) fun _ h => Step.of_map_update h _

theorem copyEntry_step {s : St} (hs : Inv W base s) {dst : RPath}
    {d : Path} (hr : Ready W cfg.cwd s dst d) (src : RPath) :
    Step W base s (copyEntry cfg src dst s).1 := by
  unfold copyEntry
  split
  · exact Step.refl hs
  · split
    · rename_i hf; exact copyFile_step hs hr (plain_basename_of_isFile hf)
    · exact Step.refl hs

/-- what `relpath` of a directory reached by `os.walk` consists of: plain names, or the single `"."`;
appending such components keeps a path `InWs` (`InWs.join`) -/
def SoftComp (c : String) : Prop := plain c = true ∨ trivialComp c = true

theorem safeComps_soft : ∀ (b : List String) (d : Nat), (∀ c ∈ b, SoftComp c) → safeComps d b = true := by
  intro b
  induction b with
  | nil => intro d _; rfl
  | cons c r ih =>
    intro d h
    have hr : ∀ x ∈ r, SoftComp x := fun x hx => h x (List.mem_cons_of_mem _ hx)
    rcases h c (by simp) with hc | hc
    · rw [safeComps_cons_plain hc]; exact ih _ hr
    · rw [safeComps_skip hc]; exact ih _ hr

theorem safeComps_swap_soft {b' : List String} (hb' : ∀ c ∈ b', SoftComp c) :
    ∀ (a b : List String) (d : Nat), safeComps d (a ++ b) = true → safeComps d (a ++ b') = true := by
  intro a
  induction a with
  | nil => exact fun _ d _ => safeComps_soft b' d hb'
  | cons c r ih =>
    intro b d h
    rw [List.cons_append] at h ⊢
    rcases comp_cases c with hc | rfl | hc
    · rw [safeComps_skip hc] at h ⊢; exact ih b d h
    · cases d with
      | zero => simp [safeComps_up_zero] at h
      | succ d => rw [safeComps_up] at h ⊢; exact ih b d h
    · rw [safeComps_cons_plain hc] at h ⊢; exact ih b _ h

theorem InWs.join {ws dst rel : RPath} (h : InWs ws dst) (habs : rel.abs = false)
    (hsoft : ∀ c ∈ rel.comps, SoftComp c) : InWs ws (join dst rel) := by
  obtain ⟨ha, t0, rest, hc, ht0, hsafe⟩ := h
  refine ⟨by simp [Fs.join, habs, ha], t0, dropTrailingEmpty rest ++ rel.comps, ?_, ht0, ?_⟩
  · simp only [Fs.join, habs, Bool.false_eq_true, if_false]
    rw [hc, dropTrailingEmpty_append_cons _ ht0]; simp
  · rcases dropTrailingEmpty_cases rest with e | e
    · rw [e]; exact safeComps_swap_soft hsoft rest [] 1 (by simpa using hsafe)
    · rw [e] at hsafe; exact safeComps_swap_soft hsoft _ _ 1 hsafe

theorem InWs.subdir (ws : RPath) {t0 : String} (ht0 : plain t0 = true) : InWs ws (joinName ws t0) :=
  ⟨by simp [joinName_eq], t0, [], by simp [joinName_eq], ht0, rfl⟩

/-- The destination of an input directory, `<ws>/<src>/<basename of the input>`.  The basename may be
`""`, `"."` or `".."`: one level below `W` even `..` does not climb above it (`safeComps 1 [".."]`). -/
theorem InWs.second (ws : RPath) {t0 : String} (ht0 : plain t0 = true) (n : String) :
    InWs ws (joinName (joinName ws t0) n) := by
  refine ⟨by simp [joinName_eq], t0, [n], ?_, ht0, ?_⟩
  · rw [joinName_eq (joinName ws t0) n, joinName_eq ws t0]
    simp only
    rw [dropTrailingEmpty_snoc_ne _ (plain_ne_empty ht0)]; simp
  · rcases comp_cases n with hn | rfl | hn
    · rw [safeComps_skip hn]; rfl
    · rfl
    · rw [safeComps_cons_plain hn]; rfl

theorem childNames_plain {fs : FS} (h : ∀ e ∈ fs, ∀ c ∈ e.1, plain c = true) (q : Path) :
    ∀ n ∈ childNames fs q, plain n = true := by
  intro n hn
  obtain ⟨e, he, hpe⟩ := mem_childNames.1 hn
  exact h e he n (by rw [hpe]; simp)

theorem mListDir_names {cwd : Path} {s : St} {top : RPath} {q : Path} {names : List String}
    (h : mListDir cwd s top = .ok (q, names)) : names = childNames s.fs q := by
  unfold mListDir at h
  split at h <;> cases h
  rfl

def TopOk (cwd : Path) (src top : RPath) : Prop :=
  ∃ ns, abspath cwd top = abspath cwd src ++ ns ∧ ∀ n ∈ ns, plain n = true

theorem TopOk.refl (cwd : Path) (src : RPath) : TopOk cwd src src := ⟨[], by simp, by simp⟩

theorem TopOk.child {cwd : Path} {src top : RPath} (h : TopOk cwd src top) {n : String}
    (hn : plain n = true) : TopOk cwd src (joinName top n) := by
  obtain ⟨ns, h1, h2⟩ := h
  exact ⟨ns ++ [n], by rw [abspath_joinName_plain _ _ hn, h1]; simp, forall_mem_snoc h2 hn⟩

theorem InWs.walkDst {cwd : Path} {ws src dst top : RPath} (hdst : InWs ws dst) (htop : TopOk cwd src top) :
    InWs ws (Fs.join dst (relpath cwd top src)) := by
  obtain ⟨ns, hns, hnsp⟩ := htop
  rw [relpath_of_top hns]
  refine hdst.join rfl fun c hc => ?_
  simp only at hc
  split at hc
  · rw [List.mem_singleton.1 hc]; exact Or.inr rfl
  · exact Or.inl (hnsp c hc)

theorem mkdirsOp_inws {cwd : Path} {s : St} {p : RPath}
    (ctx : WsCtx W base cwd ws) (hs : Inv W base s) (hp : InWs ws p) :
    Step W base s (mkdirsOp cwd p s).1 ∧
    ((mkdirsOp cwd p s).2 = none → ∃ q, Ready W cwd (mkdirsOp cwd p s).1 p q) := by
  have h := mkdirs_inws ctx hs hp
  unfold mkdirsOp
  cases hm : mkdirs cwd p s with
  | mk s1 r =>
    rw [hm] at h
    cases r with
    | error e => exact ⟨h.1, nofun⟩
    | ok q => exact ⟨h.1, fun _ => ⟨q, h.2 q rfl⟩⟩

theorem walk_good (ctx : WsCtx W base cfg.cwd ws)
    (v : Variant) (wsReal : Path) (src : RPath) {dst : RPath} (hdst : InWs ws dst) :
    ∀ (fuel : Nat) (top : RPath), TopOk cfg.cwd src top →
      Good W base (walk v cfg wsReal src dst fuel top) := by
  intro fuel
  induction fuel with
  | zero => intro top _ s hs; exact Step.refl hs
  | succ fuel ih =>
    intro top htop s hs
    unfold walk
    cases hls : mListDir cfg.cwd s top with
    | error e => exact Step.refl hs
    | ok r =>
      obtain ⟨q, names⟩ := r
      have hnames := mListDir_names hls ▸ childNames_plain hs.plainAll q
      simp only
      split
      · exact Step.refl hs
      · obtain ⟨hmk, hready⟩ := mkdirsOp_inws ctx hs (hdst.walkDst htop)
        refine step_andThen hmk fun hnone hs1 => step_andThen ?_ fun _ hs2 => ?_
        · obtain ⟨q1, hq1⟩ := hready hnone
          exact step_seqAll (fun _ _ hp hst => hp.step hst) _
            (fun n _ st hst hp => copyEntry_step hst hp _) _ hs1 hq1
        · refine step_seqAll (P := fun _ => True) (fun _ _ _ _ => trivial) _ (fun n hn st hst _ => ?_)
            _ hs2 trivial
          split
          · exact Step.refl hst
          · exact ih _ (htop.child (hnames n (List.mem_filter.1 hn).1)) st hst

theorem not_isFile_of_isDir {cwd : Path} {s : St} {p : RPath} (h : mIsDir cwd s p = true) :
    mIsFile cwd s p = false := by
  obtain ⟨q, hq⟩ := mIsDir_iff.1 h
  rw [mIsFile, mstat_dir_iff.2 hq]

theorem copyTree_cases {C : Res → Prop} {v : Variant} {wsReal : Path} {fuel : Nat} {src dst : RPath} {s : St}
    (h0 : C (s, none)) (hd : mIsDir cfg.cwd s src = true → C (walk v cfg wsReal src dst fuel src s))
    (hf : mIsFile cfg.cwd s src = true → C (copyFile cfg src dst s)) :
    C (copyTree v cfg wsReal fuel src dst s) := by
  unfold copyTree
  by_cases hl : mIsLink cfg.cwd s src = true
  · rw [if_pos hl]; exact h0
  · rw [if_neg hl]
    by_cases h : mIsDir cfg.cwd s src = true
    · rw [if_pos h]; exact hd h
    · rw [if_neg h]
      by_cases h : mIsFile cfg.cwd s src = true
      · rw [if_pos h]; exact hf h
      · rw [if_neg h]; exact h0

theorem copyTree_step (ctx : WsCtx W base cfg.cwd ws)
    (v : Variant) (wsReal : Path) (fuel : Nat) (src : RPath) {dst : RPath} (hdst : InWs ws dst)
    {s : St} (hs : Inv W base s)
    (hfile : mIsFile cfg.cwd s src = true → ∃ d, Ready W cfg.cwd s dst d) :
    Step W base s (copyTree v cfg wsReal fuel src dst s).1 :=
  copyTree_cases (C := fun r => Step W base s r.1) (Step.refl hs)
    (fun _ => walk_good ctx v wsReal src hdst fuel src (TopOk.refl _ _) s hs)
    fun hf => (hfile hf).elim fun _ hd => copyFile_step hs hd (plain_basename_of_isFile hf)

structure ParamsOk (cfg : Cfg) : Prop where
  plainSub : ∀ d ∈ cfg.subdirs, plain d = true
  srcIn : cfg.srcDir ∈ cfg.subdirs
  extIn : cfg.externsDir ∈ cfg.subdirs

theorem copyInput_step (ctx : WsCtx W base cfg.cwd ws)
    (hp : ParamsOk cfg) (v : Variant) (wsReal : Path) (fuel : Nat) (i : RPath) {s : St}
    (hs : Inv W base s) (hready : ∃ d, Ready W cfg.cwd s (joinName ws cfg.srcDir) d) :
    Step W base s (copyInput v cfg wsReal fuel (joinName ws cfg.srcDir) i s).1 := by
  have hsrc : plain cfg.srcDir = true := hp.plainSub _ hp.srcIn
  unfold copyInput
  split
  · exact Step.refl hs
  · split
    · exact Step.refl hs
    · split
      · rename_i hd
        refine copyTree_step ctx v wsReal fuel i (InWs.second ws hsrc _) hs fun hf => ?_
        rw [not_isFile_of_isDir hd] at hf; cases hf
      · exact copyTree_step ctx v wsReal fuel i (InWs.subdir ws hsrc) hs fun _ => hready

theorem subdirs_step (ctx : WsCtx W base cfg.cwd ws)
    (hp : ParamsOk cfg) {s1 : St} (hs : Inv W base s1) :
    Step W base s1 (seqAll (fun d => mkdirsOp cfg.cwd (joinName ws d)) cfg.subdirs s1).1 ∧
    ((seqAll (fun d => mkdirsOp cfg.cwd (joinName ws d)) cfg.subdirs s1).2 = none → ∀ d ∈ cfg.subdirs,
      ∃ q, Ready W cfg.cwd (seqAll (fun d => mkdirsOp cfg.cwd (joinName ws d)) cfg.subdirs s1).1
        (joinName ws d) q) := by
  have hmk := fun d hd s hs => mkdirsOp_inws (s := s) ctx hs (InWs.subdir ws (hp.plainSub d hd))
  have hP : ∀ s s' : St, True → Step W base s s' → True := fun _ _ _ _ => trivial
  have hf := fun d hd s hs (_ : True) => (hmk d hd s hs).1
  refine ⟨step_seqAll hP _ hf s1 hs trivial, fun hn d hd => ?_⟩
  -- `d` was made from a state `t`, and is still there after what followed
  obtain ⟨t, _, ht, hnone, hr⟩ := step_seqAll_done hP _ hf s1 hs trivial hn hd
  exact ((hmk d hd t ht.1).2 hnone).imp fun _ h => h.step hr

theorem fill_step (ctx : WsCtx W base cfg.cwd ws)
    (hp : ParamsOk cfg) (v : Variant) (fuel : Nat) (wsReal : Path) {s1 : St} (hs : Inv W base s1) :
    Step W base s1 (fill v fuel cfg ws wsReal s1).1 := by
  unfold fill
  obtain ⟨hsub, hsubq⟩ := subdirs_step ctx hp hs
  refine step_andThen hsub fun hnone hs2 => ?_
  have hinputs : Step W base _ (seqAll (copyInput v cfg wsReal fuel (joinName ws cfg.srcDir)) cfg.inputs _).1 :=
    step_seqAll (fun _ _ ⟨q, h⟩ hst => ⟨q, h.step hst⟩) _
      (fun i _ st hst hpst => copyInput_step ctx hp v wsReal fuel i hst hpst) _ hs2
      (hsubq hnone _ hp.srcIn)
  refine step_andThen hinputs fun _ hs3 => ?_
  split
  · exact Step.refl hs3
  · obtain ⟨q, hq⟩ := hsubq hnone _ hp.extIn
    exact copyTree_step ctx v wsReal fuel _ (InWs.subdir ws (hp.plainSub _ hp.extIn)) hs3
      fun _ => ⟨q, hq.step hinputs⟩

end LianVerif.Workspace
