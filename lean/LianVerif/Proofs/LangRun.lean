/-
Id allocation over the units of a project (`LangRun.langRun`): every saved unit satisfies the core
clauses, `top_decl` and `ordered` (`UnitOk`), and the id ranges of different units are disjoint and
increasing.
-/
import LianVerif.Model.LangRun
import LianVerif.Proofs.MainFunc

namespace LianVerif.Gir
open LianVerif.LangRun

theorem adjust_ge (i n : Nat) : n + i ≤ adjustNodeId i n := by
  simp only [adjustNodeId]
  split <;> omega

theorem adjust_mod (i n : Nat) : adjustNodeId i n % 10 = 0 := by
  unfold adjustNodeId
  simp only [bne_iff_ne, ne_eq]
  split <;> omega

theorem stamp_id (u : Nat) (r : Row) : (stamp u r).id = r.id := rfl
theorem stamp_op (u : Nat) (r : Row) : (stamp u r).op = r.op := rfl
theorem stamp_parent (u : Nat) (r : Row) : (stamp u r).parent = r.parent := rfl
theorem stamp_isEnd (u : Nat) (r : Row) : (stamp u r).isEnd = r.isEnd := rfl

theorem stamp_attrs {u : Nat} {r : Row} (hk : "unit_id" ∉ r.attrs.map Prod.fst) :
    (stamp u r).attrs = r.attrs ++ [("unit_id", AVal.int u)] :=
  assocSet_fresh _ _ _ hk

theorem stamp_hasIntAttr {u : Nat} {r : Row} {b : Nat} (hk : "unit_id" ∉ r.attrs.map Prod.fst)
    (h : r.hasIntAttr b = true) : (stamp u r).hasIntAttr b = true := by
  simp only [Row.hasIntAttr, stamp_attrs hk, List.any_append, Bool.or_eq_true]
  exact .inl h

theorem shape_map_stamp (u : Nat) {p : Nat} {last : Option Row} {rows : Rows} (h : Shape p last rows) :
    (∀ r ∈ rows, "unit_id" ∉ r.attrs.map Prod.fst) →
    (∀ o, last = some o → "unit_id" ∉ o.attrs.map Prod.fst) →
    Shape p (last.map (stamp u)) (rows.map (stamp u)) := by
  induction h with
  | nil => exact fun _ _ => .nil
  | @stmt p last r rest hm hp _ ih =>
    intro hk _
    exact .stmt hm hp (ih (fun x hx => hk x (List.mem_cons_of_mem _ hx))
      fun o ho => by cases ho; exact hk _ List.mem_cons_self)
  | @block p o s e inner rest hs he hid hsp hep ha _ _ ih1 ih2 =>
    intro hk hlast
    rw [List.map_cons, List.map_append, List.map_cons]
    exact .block (o := stamp u o) hs he hid hsp hep (stamp_hasIntAttr (hlast o rfl) ha)
      (ih1 (fun x hx => hk x (by simp [hx])) nofun) (ih2 (fun x hx => hk x (by simp [hx])) hlast)

/-- `hbk`: the stamped `unit_id = int u` must not be read as a body reference. -/
theorem stamp_wfCore (u : Nat) (bk : String → Bool) (hbk : bk "unit_id" = false) {rows : Rows}
    (h : WFCore bk rows) (hk : ∀ r ∈ rows, "unit_id" ∉ r.attrs.map Prod.fst) :
    WFCore bk (rows.map (stamp u)) := by
  refine ⟨lvl_of_shape (shape_map_stamp u h.shape hk nofun), ?_, ?_, ?_⟩
  · rw [defIds_map (stamp_id u) (stamp_isEnd u)]; exact h.ids_unique
  · exact List.forall_mem_map.2 h.ids_pos
  · intro r hr hm kv hkv hb b hv
    obtain ⟨x, hx, rfl⟩ := List.mem_map.1 hr
    rw [stamp_attrs (hk x hx)] at hkv
    rcases List.mem_append.1 hkv with hkv | hkv
    · obtain ⟨s, hs, h'⟩ := h.bodies_exist x hx hm kv hkv hb b hv
      exact ⟨stamp u s, List.mem_map_of_mem hs, h'⟩
    · rw [List.mem_singleton.1 hkv, hbk] at hb; cases hb

theorem stamp_ordered (u : Nat) {rows : Rows} (h : rows.Pairwise OrdRel) : (rows.map (stamp u)).Pairwise OrdRel :=
  -- `OrdRel` reads operation, id and parent, which `stamp` leaves as they are: the two relations unfold to the same
  List.pairwise_map.2 h

theorem stamp_isUnitInit (W : WfParams) (u : Nat) (r : Row) : isUnitInit W (stamp u r) = isUnitInit W r := by
  have hne : "unit_id" ≠ "name" := by decide +kernel
  simp only [isUnitInit, Row.get, stamp, assocGet_assocSet_ne _ _ _ _ hne]

/-- `one_init` survives `stamp`. `langRun_spec` does not use it: the clause is not carried from trees to rows
(OPEN note in Properties/C03). -/
theorem stamp_one_init (W : WfParams) (u : Nat) {rows : Rows} (h : (rows.filter (isUnitInit W)).length ≤ 1) :
    ((rows.map (stamp u)).filter (isUnitInit W)).length ≤ 1 := by
  rwa [List.filter_map, List.length_map,
    show isUnitInit W ∘ stamp u = isUnitInit W from funext (stamp_isUnitInit W u)]

/-- what the passes establish for the rows saved for a unit -/
def UnitOk (P : LangRun.Params) (bk : String → Bool) (rows : Rows) : Prop :=
  WFCore bk rows ∧
  (∀ r ∈ rows, r.isMarker = false → r.parent = 0 → MainFunc.keepsTop P.main r.op = true) ∧
  rows.Pairwise OrdRel

theorem unitRun_raised (P : LangRun.Params) (n uid : Nat) (cls : String) :
    unitRun P n uid (.raised cls) = unitRun P n uid (.gir none) := rfl

theorem unitRun_spec (P : LangRun.Params) (bk : String → Bool) (hbk1 : bk "original_stmt" = false)
    (hbk2 : bk "unit_id" = false) (n uid : Nat) (hn : 1 ≤ n) (fe : Frontend)
    (hwf : ∀ t, fe = .gir (some t) → treeFalsy (some t) = false → WfGir bk t = true) :
    ∃ n' rows?, unitRun P n uid fe = .ok (n', rows?) ∧ n ≤ n' ∧
      ∀ rows, rows? = some rows →
        (∀ r ∈ rows, n ≤ r.id ∧ r.id < n' + 2) ∧ UnitOk P bk rows := by
  cases fe with
  | raised cls => exact ⟨n, none, rfl, Nat.le_refl _, nofun⟩
  | gir tree =>
    simp only [unitRun, unitRunGir]
    split
    · exact ⟨n, none, rfl, Nat.le_refl _, nofun⟩
    · rename_i hf
      cases tree with
      | none => exact absurd rfl hf
      | some t =>
        obtain ⟨n', rows, hfl, hlt, hseg, hl⟩ := flatten_spec P.flat bk hbk1 n t (hwf t rfl (by simpa using hf))
        simp only [hfl]
        refine ⟨n', _, rfl, Nat.le_of_lt hlt, ?_⟩
        rintro _ ⟨rfl⟩
        have hcore : WFCore bk rows := hseg.wfCore hn hl
        refine ⟨?_, stamp_wfCore uid bk hbk2 (addMainFunc_wfCore P.main bk hcore)
          (addMainFunc_keys P.main hseg.keys), ?_, ?_⟩
        · exact List.forall_mem_map.2
            (hseg.nextId hlt ▸ addMainFunc_id_bound P.main fun r hr => (hseg.bound r hr).1)
        · exact List.forall_mem_map.2 (addMainFunc_top_decl P.main rows)
        · exact stamp_ordered uid (addMainFunc_ordered P.main hl hcore.ids_pos hcore.ids_unique
            (inc_of_ids hseg.ids))

theorem langRun_spec (P : LangRun.Params) (bk : String → Bool) (hbk1 : bk "original_stmt" = false)
    (hbk2 : bk "unit_id" = false) (hI : 2 ≤ P.interval) :
    ∀ (units : List (Nat × Frontend)) (n : Nat), 1 ≤ n →
      (∀ u ∈ units, ∀ t, u.2 = .gir (some t) → treeFalsy (some t) = false → WfGir bk t = true) →
      ∃ us nf, langRun P n units = .ok (us, nf) ∧ n ≤ nf ∧
        (∀ u ∈ us, ∀ r ∈ u.2, n ≤ r.id ∧ r.id < nf) ∧
        us.Pairwise (fun u v => ∀ a ∈ u.2, ∀ b ∈ v.2, a.id < b.id) ∧
        (∀ u ∈ us, UnitOk P bk u.2) := by
  intro units
  induction units with
  | nil => exact fun n _ _ => ⟨[], n, rfl, Nat.le_refl _, nofun, .nil, nofun⟩
  | cons u rest ih =>
    obtain ⟨uid, fe⟩ := u
    intro n hn hwf
    obtain ⟨n', rows?, hu, hle, hspec⟩ := unitRun_spec P bk hbk1 hbk2 n uid hn fe (hwf _ List.mem_cons_self)
    have hadj : n' + 2 ≤ adjustNodeId P.interval n' := Nat.le_trans (Nat.add_le_add_left hI n') (adjust_ge _ _)
    have hn' : n ≤ adjustNodeId P.interval n' := Nat.le_trans hle (Nat.le_of_add_right_le hadj)
    obtain ⟨us, nf, hrest, hle2, hb2, hp2, hw2⟩ :=
      ih (adjustNodeId P.interval n') (Nat.le_trans hn hn') fun v hv => hwf v (List.mem_cons_of_mem _ hv)
    have hb2' : ∀ u ∈ us, ∀ r ∈ u.2, n ≤ r.id ∧ r.id < nf := fun v hv r hr =>
      ⟨Nat.le_trans hn' (hb2 v hv r hr).1, (hb2 v hv r hr).2⟩
    rw [langRun] at hrest
    cases rows? with
    | none => exact ⟨us, nf, by simp only [langRun, langRunWith, hu, hrest], Nat.le_trans hn' hle2, hb2', hp2, hw2⟩
    | some rows =>
      obtain ⟨hb, hunit⟩ := hspec rows rfl
      refine ⟨(uid, rows) :: us, nf, by simp only [langRun, langRunWith, hu, hrest], Nat.le_trans hn' hle2, ?_,
        .cons (fun v hv a ha b hb' => ?_) hp2, ?_⟩
      · rintro v (_ | ⟨_, hv⟩) r hr
        · exact ⟨(hb r hr).1, Nat.lt_of_lt_of_le (hb r hr).2 (Nat.le_trans hadj hle2)⟩
        · exact hb2' v hv r hr
      · exact Nat.lt_of_lt_of_le (hb a ha).2 (Nat.le_trans hadj (hb2 v hv b hb').1)
      · rintro v (_ | ⟨_, hv⟩)
        · exact hunit
        · exact hw2 v hv

end LianVerif.Gir
