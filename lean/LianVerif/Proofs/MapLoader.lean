/-
C15 (OneToManyMapLoader): forward lookups return the latest save, reverse entries are sound.
`restore` of the map loader is covered by no theorem (histories are `noRestore`).
-/
import LianVerif.Model.MapLoader
import LianVerif.Spec.LoaderSpec
import LianVerif.Proofs.Lru

namespace LianVerif.MapLoader
open LianVerif.MapSpec
open LianVerif.Lru (alookup aset aerase alookup_aset alookup_aerase)

variable {A B : Type} [DecidableEq A] [DecidableEq B]

omit [DecidableEq A] in
theorem alookup_link (a : A) (bs : List B) (m : List (B × A)) (b : B) :
    alookup b (link a bs m) = if b ∈ bs then some a else alookup b m := by
  induction bs generalizing m with
  | nil => simp [link]
  | cons x xs ih =>
    simp only [link, List.foldl_cons] at ih ⊢
    rw [ih, alookup_aset]
    by_cases h1 : b ∈ xs
    · simp [h1]
    · by_cases h2 : b = x
      · simp [h2]
      · simp [h1, h2]

theorem alookup_unlink (a : A) (bs : List B) (m : List (B × A)) (b : B) :
    alookup b (unlink a bs m) = if b ∈ bs ∧ alookup b m = some a then none else alookup b m := by
  induction bs generalizing m with
  | nil => simp [unlink]
  | cons x xs ih =>
    simp only [unlink, List.foldl_cons] at ih ⊢
    rw [ih]
    by_cases hx : alookup x m = some a
    · simp only [hx, if_true, alookup_aerase]
      by_cases e : b = x
      · subst e; simp [hx]
      · by_cases h1 : b ∈ xs <;> simp [e, h1]
    · simp only [hx, if_false]
      by_cases e : b = x
      · subst e
        by_cases h1 : b ∈ xs <;> simp [h1, hx]
      · by_cases h1 : b ∈ xs <;> simp [e, h1]

/-- `rev` is soundness only: that every element of a list has a reverse entry fails (a later save of
the same element under another id takes the entry over). -/
structure Inv (s : M A B) (f : A → List B) : Prop where
  fwd : ∀ a, oneToMany s a = f a
  rev : ∀ b a, alookup b s.many2one = some a → b ∈ f a

theorem inv_init : Inv (M.init : M A B) (fun _ => []) := by
  constructor
  · intro a; simp [oneToMany, M.init]
  · intro b a h; simp [M.init] at h

theorem save_ok {s : M A B} {f : A → List B} (h : Inv s f) (a : A) (bs : List B) :
    Inv (save s a bs) (fun a' => if a' = a then bs else f a') := by
  have hfwd : ∀ a', (alookup a' (aset a bs s.one2many)).getD [] = if a' = a then bs else f a' := fun a' => by
    rw [alookup_aset]
    split
    · rfl
    · exact h.fwd a'
  have hrev : ∀ b a', alookup b (link a bs (unlink a (f a) s.many2one)) = some a' →
      b ∈ (if a' = a then bs else f a') := fun b a' hr => by
    rw [alookup_link, alookup_unlink] at hr
    split at hr
    · cases hr; rwa [if_pos rfl]
    · split at hr
      · cases hr
      · rename_i hc
        have hm := h.rev b a' hr
        split
        · rename_i e; subst e; exact absurd ⟨hm, hr⟩ hc
        · exact hm
  have hfa : f a = (alookup a s.one2many).getD [] := (h.fwd a).symm
  unfold save
  cases ho : alookup a s.one2many with
  | none =>
    rw [ho] at hfa
    dsimp only
    split
    · -- nothing was saved for `a` and nothing is: state and map both stay
      rename_i he
      have hf : (fun a' => if a' = a then bs else f a') = f := funext fun a' => by
        split
        · rename_i e; rw [e, hfa, List.isEmpty_iff.1 he]; rfl
        · rfl
      rw [hf]; exact h
    · rw [hfa] at hrev; exact ⟨hfwd, hrev⟩
  | some old =>
    rw [ho] at hfa
    rw [hfa] at hrev; exact ⟨hfwd, hrev⟩

theorem map_step_ok {s : M A B} {f : A → List B} (h : Inv s f) (op : Op A B) (hop : op ≠ .restore) :
    Inv (step s op).1 (specStep f op) ∧ OutOk f op (step s op).2 := by
  unfold step stepWith
  cases op with
  | save a bs => exact ⟨save_ok h a bs, trivial⟩
  | oneToMany a => exact ⟨h, h.fwd a⟩
  | manyToOne b =>
    refine ⟨h, ?_⟩
    simp only [manyToOne]
    cases hb : alookup b s.many2one with
    | none => trivial
    | some a => exact h.rev b a hb
  | exp =>
    refine ⟨?_, trivial⟩
    simp only [doExport, specStep]
    split
    · exact h
    · exact ⟨h.fwd, h.rev⟩
  | restore => exact absurd rfl hop

theorem map_run_ok (ops : List (Op A B)) : ∀ (s : M A B) (f : A → List B), Inv s f →
    noRestore ops = true → RunOk f ops (run step s ops).2 := by
  fun_induction noRestore ops with
  | case1 => intro s f _ _; trivial
  | case2 => nofun
  | case3 op ops hop ih =>
    intro s f h hn
    obtain ⟨h1, o1⟩ := map_step_ok h op hop
    exact ⟨o1, ih _ _ h1 hn⟩

end LianVerif.MapLoader
