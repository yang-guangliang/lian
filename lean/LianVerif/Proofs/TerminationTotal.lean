/-
For C13_total_polynomial: the visit loop as a `Runner` of the frame driver, and the payment of all
statement-loop iterations of an entry point: every frame pays its invocations out of its own rank, at
most `K` per frame created, plus `dmax + 1` per interruption.
-/
import LianVerif.Model.TerminationTotal
import LianVerif.Proofs.Termination

namespace LianVerif.Termination

section
variable {ω : Type} (U : List Site) (B : Nat) (P : Prog ω) (f : Frame (VLoc ω)) (tick : Nat) (s : Int) (g : VG)

theorem analyseCall_mono (u : Site) : g.1.cnt u ≤ (analyseCall U B P f tick s g).1.1.cnt u := by
  unfold analyseCall
  have h := (request_spec U B f s (P.calls f.method s g.1 tick) g.1 []).1 u
  simp only
  split
  · exact Nat.le_trans h (settle_mono f s _ _ u)
  · exact h

theorem analyseCall_pay (h : (analyseCall U B P f tick s g).2 = true) :
    ∃ s' ks, (analyseCall U B P f tick s g).1.2 = some (s', ks) ∧ ks ≠ [] ∧
      budget U B (analyseCall U B P f tick s g).1.1.cnt + ks.length ≤ budget U B g.1.cnt ∧
      ∀ k ∈ ks, SiteOk U f s' k := by
  unfold analyseCall at h ⊢
  obtain ⟨_, hs, ht⟩ := request_spec U B f s (P.calls f.method s g.1 tick) g.1 []
  simp only at h ⊢
  split
  · rename_i he; rw [if_pos he] at h; cases h
  · rename_i he
    exact ⟨s, _, rfl, fun hnil => he (by rw [hnil]; rfl), hs, fun k hk => (ht k hk).resolve_left nofun⟩

end

theorem analyseCall_none {ω : Type} (U : List Site) (B : Nat) (P : Prog ω) (f : Frame (VLoc ω))
    (tick : Nat) (s : Int) (g : VG) (h : (analyseCall U B P f tick s g).2 = false) :
    (analyseCall U B P f tick s g).1.2 = none := by
  unfold analyseCall at h ⊢
  simp only at h ⊢
  split
  · rfl
  · rename_i he; rw [if_neg he] at h; cases h

def visitRunner {ω : Type} (U : List Site) (B : Nat) (P : Prog ω) : Runner U B (VLoc ω) where
  run := visitRun U B P
  mono G f t u := by
    unfold visitRun
    exact visitLoop_inv P.D (P.succ f.method) (P.V f.method) (P.lim f.method) (analyseCall U B P f t)
      (fun g => G.cnt u ≤ g.1.cnt u)
      (fun s g hg => Nat.le_trans hg (analyseCall_mono U B P f t s g u)) f.loc.w f.loc.cnt (G, none)
      (Nat.le_refl _)
  pay G f t s ks h := by
    unfold visitRun at h ⊢
    simp only at h ⊢
    split at h
    · rename_i hi
      have := visitLoop_intr_inv P.D (P.succ f.method) (P.V f.method) (P.lim f.method)
        (analyseCall U B P f t)
        (fun g => budget U B g.1.cnt ≤ budget U B G.cnt)
        (fun g => ∀ s ks, g.2 = some (s, ks) → budget U B g.1.cnt + ks.length ≤ budget U B G.cnt)
        (fun s g hg => Nat.le_trans (budget_anti U B (analyseCall_mono U B P f t s g)) hg)
        (fun s g hg hb => by
          obtain ⟨s', ks', he, _, hpay, _⟩ := analyseCall_pay U B P f t s g hb
          intro s2 ks2 h2
          rw [he] at h2
          simp only [Option.some.injEq, Prod.mk.injEq] at h2
          obtain ⟨_, rfl⟩ := h2
          exact Nat.le_trans hpay hg)
        f.loc.w f.loc.cnt (G, none) (Nat.le_refl _) hi
      exact this s ks h
    · cases h

section
variable {ω : Type} (U : List Site) (B : Nat) (P : Prog ω)

theorem visitRunner_run : (visitRunner U B P).run = visitRun U B P := rfl

theorem visitRun_intr_cases (G : Glob) (f : Frame (VLoc ω)) (t : Nat) :
    ((visitRun U B P G f t).intr = none ∧
      (visitLoop P.D (P.succ f.method) (P.V f.method) (P.lim f.method)
        (analyseCall U B P f t) f.loc.w f.loc.cnt (G, none)).interrupted = false) ∨
    ∃ s k ks, (visitRun U B P G f t).intr = some (s, k :: ks) ∧ ∀ c ∈ k :: ks, SiteOk U f s c := by
  cases hi : (visitLoop P.D (P.succ f.method) (P.V f.method) (P.lim f.method)
      (analyseCall U B P f t) f.loc.w f.loc.cnt (G, none)).interrupted with
  | false => exact Or.inl ⟨by simp only [visitRun, hi]; rfl, rfl⟩
  | true =>
    refine Or.inr ?_
    simp only [visitRun, hi, if_true]
    refine visitLoop_intr P.D (P.succ f.method) (P.V f.method) (P.lim f.method) (analyseCall U B P f t)
      (fun g => ∃ s k ks, g.2 = some (s, k :: ks) ∧ ∀ c ∈ k :: ks, SiteOk U f s c)
      (fun s g hb => ?_) f.loc.w f.loc.cnt (G, none) hi
    obtain ⟨s', ks', he, hne, _, hsafe⟩ := analyseCall_pay U B P f t s g hb
    cases ks' with
    | nil => exact absurd rfl hne
    | cons k ks => exact ⟨s', k, ks, he, hsafe⟩

theorem visitRunner_pathSafe : PathSafe (visitRunner U B P) := by
  intro G f t s ks h
  obtain ⟨hn, _⟩ | ⟨s', k, ks', he, hsafe⟩ := visitRun_intr_cases U B P G f t
  · exact nomatch hn.symm.trans h
  · cases he.symm.trans h
    exact hsafe

def frameRank (f : Frame (VLoc ω)) : Nat :=
  rank P.D (P.succ f.method) (P.V f.method) (P.lim f.method) f.loc.w f.loc.cnt

/-- "runs to the end" is spelt as `driver` tests it (no request with a callee) -/
theorem visitRun_cost (dmax : Nat) (hd : ∀ m s, (P.succ m s).length ≤ dmax) (G : Glob)
    (f : Frame (VLoc ω)) (t : Nat) :
    (visitRun U B P G f t).cost + frameRank P { f with loc := (visitRun U B P G f t).loc }
        ≤ frameRank P f + (dmax + 1) ∧
    ((∀ s k ks, (visitRun U B P G f t).intr = some (s, k :: ks) → False) →
      (visitRun U B P G f t).cost ≤ frameRank P f) := by
  have hpot := visit_potential P.D (P.succ f.method) (P.V f.method) (P.lim f.method)
    (analyseCall U B P f t) f.loc.w f.loc.cnt (G, none)
  simp only [visitRun, frameRank]
  refine ⟨?_, fun hno => ?_⟩
  · exact Nat.le_trans hpot (Nat.add_le_add_left (allow_le P.D (P.succ f.method) (P.V f.method) (P.lim f.method)
      (analyseCall U B P f t) dmax (hd f.method) f.loc.w f.loc.cnt (G, none)) _)
  · rw [allow_of_not_intr P.D (P.succ f.method) (P.V f.method) (P.lim f.method)
      (analyseCall U B P f t) f.loc.w f.loc.cnt (G, none)
      ((visitRun_intr_cases U B P G f t).elim (·.2) fun ⟨s, k, ks, he, _⟩ => (hno s k ks he).elim)] at hpot
    exact Nat.le_trans (Nat.le_add_right _ _) hpot

theorem innerCost_le (K dmax : Nat)
    (hK : ∀ m, rank P.D (P.succ m) (P.V m) (P.lim m) (P.init m).w (P.init m).cnt ≤ K)
    (hd : ∀ m s, (P.succ m s).length ≤ dmax) (hasBody : Glob → Frame (VLoc ω) → Nat → Bool)
    (stack : List (Frame (VLoc ω))) (G : Glob) (tick : Nat) :
    innerCost (driver (visitRunner U B P) hasBody P.init stack G tick).1
      ≤ sumOver (frameRank P) stack
        + pushes (driver (visitRunner U B P) hasBody P.init stack G tick).1 * K
        + interruptions (driver (visitRunner U B P) hasBody P.init stack G tick).1 * (dmax + 1) := by
  fun_induction driver (visitRunner U B P) hasBody P.init stack G tick with
    simp +zetaDelta only [innerCost, sumOver, pushes_cons, interruptions_cons, nPush, nIntr, frameRank,
      visitRunner_run, Nat.add_zero, Nat.add_mul, Nat.one_mul] at *
  | case1 G tick => exact Nat.zero_le _
  -- initFail, init: no cost
  | case2 G tick f rest hi hb r ih =>
    exact Nat.le_trans ih (Nat.add_le_add_right (Nat.add_le_add_right (Nat.le_add_left _ _) _) _)
  | case3 G tick f rest hi hb path G1 r ih => exact ih
  -- push: the fresh frame brings at most `K`
  | case4 G tick f rest hi key caa' hp child r ih =>
    have := hK key.2.2
    omega
  -- interruption, done: the run is paid by the drop of the frame's rank (+ `dmax + 1` if interrupted)
  | case5 G tick f rest hi hp out s k ks ho caa r ih =>
    have := (visitRun_cost U B P dmax hd G f tick).1
    simp only [frameRank] at this
    omega
  | case6 G tick f rest hi hp out r hno ih =>
    have := (visitRun_cost U B P dmax hd G f tick).2 hno
    simp only [frameRank] at this
    omega

end

theorem visitRun_intr_nonempty {ω : Type} (U : List Site) (B : Nat) (P : Prog ω) (G : Glob)
    (f : Frame (VLoc ω)) (t : Nat) (s : Int) (ks : List Int)
    (h : (visitRun U B P G f t).intr = some (s, ks)) : ks ≠ [] := by
  obtain ⟨hn, _⟩ | ⟨s', k, ks', he, _⟩ := visitRun_intr_cases U B P G f t
  · exact nomatch hn.symm.trans h
  · cases he.symm.trans h
    nofun

end LianVerif.Termination
