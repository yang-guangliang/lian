/-
Every fact about a run of the model is an invariant of one iteration of the visit loop (`rdWith_of_inv`).
Soundness: the tables hold only classical reaching definitions as long as every visit applies the textbook
gen/kill.  Completeness: tables that pass the post-fixpoint check hold every classical reaching definition,
and one sweep in a topological order passes it.  Use sites: every table entry is a registered definition,
so the intersection with the register is a projection.  Termination: queue length plus unpaid pushes
(`mu`) falls with every iteration.
-/
import LianVerif.Model.ReachDef
import LianVerif.Spec.ClassicalRD
import LianVerif.Proofs.ListAux

namespace LianVerif.ReachDef
open LianVerif.ClassicalRD LianVerif.WorkList

variable {E : List (Int × Int)} {defs : List (Int × List Int)}

theorem mem_union {a b : List Def} {d : Def} : d ∈ union a b ↔ d ∈ a ∨ d ∈ b := mem_foldl_addUnless

theorem mem_unionAll {f : Int → List Def} {ps : List Int} {d : Def} :
    d ∈ unionAll f ps ↔ ∃ p ∈ ps, d ∈ f p := by
  simpa [unionAll] using foldl_or_iff (P := (d ∈ ·)) (Q := (d ∈ f ·)) (fun _ _ => mem_union) ps []

theorem unionAll_congr {f g : Int → List Def} {ps : List Int} (h : ∀ p ∈ ps, f p = g p) :
    unionAll f ps = unionAll g ps :=
  List.foldl_rel (r := Eq) rfl fun p hp _ _ e => by rw [e, h p hp]

theorem mem_preds {p u : Int} : p ∈ preds E u ↔ (p, u) ∈ E := by
  simp [preds]

theorem succs_cons (e : Int × Int) (es : List (Int × Int)) (s : Int) :
    succs (e :: es) s = if e.1 = s then e.2 :: succs es s else succs es s := by
  unfold succs
  rw [List.filter_cons]
  by_cases h : e.1 = s
  · rw [if_pos h, if_pos (beq_iff_eq.2 h), List.map_cons]
  · rw [if_neg h, if_neg (mt beq_iff_eq.1 h)]

theorem upd_same {β : Type} (f : Int → β) (k : Int) (v : β) : upd f k v k = v := by
  simp [upd]

theorem upd_other {β : Type} (f : Int → β) {k x : Int} (v : β) (h : x ≠ k) : upd f k v x = f x := by
  simp [upd, h]

theorem forall_mem_upd {α : Type} {f : Int → List α} {k : Int} {v : List α} {Q : Int → α → Prop}
    (hf : ∀ u d, d ∈ f u → Q u d) (hv : ∀ d, d ∈ v → Q k d) : ∀ u d, d ∈ upd f k v u → Q u d := by
  intro u d hd
  by_cases hu : u = k
  · rw [hu, upd_same] at hd; exact hu ▸ hv d hd
  · rw [upd_other _ _ hu] at hd; exact hf u d hd

theorem mem_transferIdeal (s : Int) (syms : List Int) (cur : List Def) (d : Def) :
    d ∈ transferIdeal s syms cur ↔ (d ∈ cur ∧ d.1 ∉ syms) ∨ (d.2 = s ∧ d.1 ∈ syms) := by
  fun_induction transferIdeal s syms cur with
  | case1 => simp
  | case2 sym rest cur ih =>
    rw [ih]
    obtain ⟨a, b⟩ := d
    simp only [List.mem_append, List.mem_filter, bne_iff_ne, ne_eq, List.mem_cons,
      List.not_mem_nil, or_false, not_or, Prod.mk.injEq]
    constructor
    · rintro (⟨(⟨h1, h2⟩ | ⟨h1, h2⟩), h3⟩ | ⟨h1, h2⟩)
      · exact Or.inl ⟨h1, h2, h3⟩
      · exact Or.inr ⟨h2, Or.inl h1⟩
      · exact Or.inr ⟨h1, Or.inr h2⟩
    · rintro (⟨h1, h2, h3⟩ | ⟨h1, (h2 | h2)⟩)
      · exact Or.inl ⟨Or.inl ⟨h1, h2⟩, h3⟩
      · by_cases hr : a ∈ rest
        · exact Or.inr ⟨h1, hr⟩
        · exact Or.inl ⟨Or.inr ⟨h2, h1⟩, hr⟩
      · exact Or.inr ⟨h1, h2⟩

theorem transfer_eq_ideal (s : Int) (syms : List Int) (cur : List Def)
    (h : (transfer s syms cur).2 = 0) : (transfer s syms cur).1 = transferIdeal s syms cur := by
  fun_induction transfer s syms cur with
  | case1 => rfl
  | case2 => cases h
  | case3 _ _ _ _ ih => exact ih h

theorem mem_transfer_imp (s : Int) (syms : List Int) (cur : List Def) (d : Def)
    (h : d ∈ (transfer s syms cur).1) : d ∈ cur ∨ (d.2 = s ∧ d.1 ∈ syms) := by
  fun_induction transfer s syms cur with
  | case1 => exact .inl h
  | case2 _ _ _ _ _ ih => exact (ih h).imp_right (.imp_right (List.mem_cons_of_mem _))
  | case3 _ _ _ _ ih =>
    rcases ih h with h1 | h1
    · rcases List.mem_append.1 h1 with h1 | h1
      · exact .inl (List.mem_filter.1 h1).1
      · rw [List.mem_singleton.1 h1]
        exact .inr ⟨rfl, List.mem_cons_self⟩
    · exact .inr (h1.imp_right (List.mem_cons_of_mem _))

theorem peek_eq_none {w : WL} : w.peek = none ↔ w.heap = [] := by
  unfold WL.peek
  cases w.heap <;> simp

theorem peek_some_ne {w : WL} {s : Int} (h : w.peek = some s) : w.heap ≠ [] :=
  fun hc => by rw [peek_eq_none.2 hc] at h; cases h

theorem popV_nil (v : Variant) (G : Graph) {w : WL} (h : w.heap = []) : popV v G w = w := by
  have h0 : w.pop0 = w := by simp [WL.pop0, h]
  cases v
  · exact h0
  · simp [popV, WL.popMin, h, h0]

theorem siftdown_length (e : Entry) (fuel : Nat) (heap : List Entry) (pos : Nat) :
    (siftdown e fuel heap pos).length = heap.length := by
  fun_induction siftdown e fuel heap pos with
  | case2 _ _ _ _ _ _ _ ih => rw [ih, List.length_set]
  | _ => exact List.length_set

theorem heappush_length (heap : List Entry) (e : Entry) : (heappush heap e).length = heap.length + 1 := by
  simp [heappush, siftdown_length]

theorem siftupHole_length (endpos : Nat) (fuel : Nat) (heap : List Entry) (pos : Nat) :
    (siftupHole endpos fuel heap pos).1.length = heap.length := by
  fun_induction siftupHole endpos fuel heap pos with
  | case2 _ _ _ _ _ _ _ ih => rw [ih, List.length_set]
  | _ => rfl

theorem heappop_length (heap : List Entry) : (heappop heap).length = heap.length - 1 := by
  unfold heappop
  split
  · next h => rw [List.getLast?_eq_none_iff.1 h]; rfl
  · dsimp only
    split
    · next h => rw [← List.length_dropLast, h]
    · rw [siftdown_length, List.length_set, siftupHole_length, List.length_dropLast]

theorem add1_length (prio : List (Int × Nat)) (w : WL) (x : Int) :
    w.heap.length ≤ (w.add1 prio x).heap.length ∧ (w.add1 prio x).heap.length ≤ w.heap.length + 1 := by
  unfold WL.add1
  split
  · exact ⟨Nat.le_refl _, Nat.le_succ _⟩
  · split <;> simp [heappush_length]

theorem add_length (prio : List (Int × Nat)) (items : List Int) : ∀ (w : WL),
    w.heap.length ≤ (w.add prio items).heap.length ∧
      (w.add prio items).heap.length ≤ w.heap.length + items.length := by
  unfold WL.add
  induction items with
  | nil => intro w; simp
  | cons x xs ih =>
    intro w
    simp only [List.foldl_cons, List.length_cons]
    have h1 := ih (w.add1 prio x)
    have h2 := add1_length prio w x
    omega

theorem pop0_length (w : WL) : w.pop0.heap.length = w.heap.length - 1 := by
  unfold WL.pop0
  cases hh : w.heap <;> simp [hh]

theorem popMin_length (w : WL) : w.popMin.heap.length = w.heap.length - 1 := by
  unfold WL.popMin
  cases hh : w.heap with
  | nil => simp [hh]
  | cons e rest => simpa using heappop_length (e :: rest)

theorem popV_length (v : Variant) (G : Graph) (w : WL) : (popV v G w).heap.length = w.heap.length - 1 := by
  unfold popV
  cases v
  · exact pop0_length w
  · simp only; split
    · exact pop0_length w
    · exact popMin_length w

theorem step_cases (v : Variant) (I : Input) (G : Graph) (st : St) :
    step v I G st = { st with wl := popV v G st.wl } ∨
    ∃ s, st.counters s < I.maxRound ∧ step v I G st =
      { wl := match v with
          | .pinned => (st.wl.add G.prio (succs G.E s)).pop0
          | .r1 => (popV .r1 G st.wl).add G.prio (succs G.E s),
        counters := upd st.counters s (st.counters s + 1),
        ins := upd st.ins s (analyse I G st s).1, outs := upd st.outs s (analyse I G st s).2.1,
        visits := s :: st.visits, skips := st.skips + (analyse I G st s).2.2,
        skipStmts := if (analyse I G st s).2.2 == 0 then st.skipStmts else s :: st.skipStmts,
        inTrace := (analyse I G st s).1 :: st.inTrace } := by
  unfold step
  cases hp : st.wl.peek with
  | none => exact .inl (by rw [popV_nil v G (peek_eq_none.1 hp)])
  | some s =>
    dsimp only
    -- `split` on the nested `if`s is several times dearer to check than `if_pos`/`if_neg`
    by_cases h1 : (s ≤ 0 || !(I.stmts.contains s)) = true
    · exact .inl (if_pos h1)
    · by_cases h2 : st.counters s < I.maxRound
      · exact .inr ⟨s, h2, (if_neg h1).trans (if_pos h2)⟩
      · exact .inl ((if_neg h1).trans (if_neg h2))

theorem step_nil (v : Variant) (I : Input) (G : Graph) (st : St) (h : st.wl.heap = []) :
    step v I G st = st := by
  unfold step
  rw [peek_eq_none.2 h]

theorem run_induct {v : Variant} {I : Input} {G : Graph} {P : St → Prop}
    (hstep : ∀ st, P st → P (step v I G st)) : ∀ (fuel : Nat) (st : St), P st → P (run v I G fuel st) := by
  intro fuel
  induction fuel with
  | zero => intro st h; exact h
  | succ n ih => intro st h; exact ih _ (hstep st h)

theorem rdWith_of_inv (v : Variant) (I : Input) {P : St → Prop} (h0 : P (init (mkGraph I.rawEdges)))
    (hstep : ∀ st, P st → P (step v I (mkGraph I.rawEdges) st)) :
    ∃ st, P st ∧ rdWith v I =
      { ins := st.ins, outs := st.outs, visits := st.visits.reverse, skips := st.skips,
        skipStmts := st.skipStmts.reverse, inTrace := st.inTrace.reverse, finished := st.wl.heap.isEmpty } :=
  ⟨_, run_induct hstep _ _ h0, rfl⟩

theorem step_counters (v : Variant) (I : Input) (G : Graph) (st : St)
    (h : ∀ s, st.visits.count s = st.counters s ∧ st.counters s ≤ I.maxRound) :
    ∀ s, (step v I G st).visits.count s = (step v I G st).counters s ∧
      (step v I G st).counters s ≤ I.maxRound := by
  rcases step_cases v I G st with e | ⟨x, hlt, e⟩ <;> rw [e]
  · exact h
  · intro s
    dsimp only
    by_cases hsx : s = x
    · rw [hsx, List.count_cons_self, upd_same]
      exact ⟨congrArg (· + 1) (h x).1, Nat.succ_le_of_lt hlt⟩
    · rw [List.count_cons_of_ne (Ne.symm hsx), upd_other _ _ hsx]
      exact h s

theorem analyse_preds (I : Input) (G : Graph) (st : St) (s : Int) :
    ∀ p ∈ (selectPreds I G (st.counters s) s).filter (fun p => I.stmts.contains p), (p, s) ∈ G.E := by
  intro p hp
  have hp1 := (List.mem_filter.1 hp).1
  unfold selectPreds at hp1
  split at hp1
  · exact mem_preds.1 (List.mem_filter.1 hp1).1
  · exact mem_preds.1 hp1

def Inv (E : List (Int × Int)) (defs : List (Int × List Int)) (ins outs : Int → List Def) : Prop :=
  (∀ u d, d ∈ ins u → ReachIn (EdgeOf E) (defsOf defs) d u) ∧
  (∀ u d, d ∈ outs u → ReachOut (EdgeOf E) (defsOf defs) d u)

theorem inv_empty : Inv E defs (fun _ => []) (fun _ => []) := by
  constructor <;> intro u d h <;> simp at h

/-- any subset `ps` of the predecessors will do: the code's loop statements read only some -/
theorem Inv.visit {ins outs : Int → List Def} (h : Inv E defs ins outs) {s : Int} {ps : List Int}
    (hps : ∀ p ∈ ps, (p, s) ∈ E) {outS : List Def}
    (ho : outS = transferIdeal s (defsOf defs s) (unionAll outs ps)) :
    Inv E defs (upd ins s (unionAll outs ps)) (upd outs s outS) := by
  have hin : ∀ d, d ∈ unionAll outs ps → ReachIn (EdgeOf E) (defsOf defs) d s := by
    intro d hd
    obtain ⟨p, hp, hdp⟩ := mem_unionAll.1 hd
    exact ⟨p, h.2 p d hdp, hps p hp⟩
  refine ⟨forall_mem_upd h.1 hin, forall_mem_upd h.2 ?_⟩
  intro d hd
  rcases (mem_transferIdeal s _ _ d).1 (ho ▸ hd) with ⟨h1, h2⟩ | ⟨h1, h2⟩
  · obtain ⟨p, hp, he⟩ := hin d h1
    exact .step hp he h2
  · obtain ⟨a, b⟩ := d
    subst h1
    exact .gen h2

/-- `skips` only grows, so "no shortcut so far" is itself part of the invariant -/
theorem step_inv (v : Variant) (I : Input) (G : Graph) (st : St)
    (h : st.skips = 0 → Inv G.E I.defs st.ins st.outs) :
    (step v I G st).skips = 0 → Inv G.E I.defs (step v I G st).ins (step v I G st).outs := by
  rcases step_cases v I G st with e | ⟨s, -, e⟩ <;> rw [e]
  · exact h
  · intro hs
    obtain ⟨hs0, ha⟩ := Nat.add_eq_zero_iff.1 hs
    exact (h hs0).visit (analyse_preds I G st s) (transfer_eq_ideal _ _ _ ha)

theorem sweep_cons (u : Int) (us : List Int) (sol : Sol) :
    sweep E defs (u :: us) sol = sweep E defs us (visitIdeal E defs sol u) := rfl

theorem sweep_inv (order : List Int) (sol : Sol) (h : Inv E defs sol.ins sol.outs) :
    Inv E defs (sweep E defs order sol).ins (sweep E defs order sol).outs :=
  List.foldlRecOn order (visitIdeal E defs) (motive := fun s => Inv E defs s.ins s.outs) h
    fun _ hs _ _ => hs.visit (fun _ hp => mem_preds.1 hp) rfl

theorem iterate_inv (order : List Int) (fuel : Nat) (sol : Sol) (n : Nat) (h : Inv E defs sol.ins sol.outs) :
    Inv E defs (iterate E defs order fuel sol n).1.ins (iterate E defs order fuel sol n).1.outs := by
  fun_induction iterate E defs order fuel sol n with
  | case1 => exact h
  | case2 => exact h
  | case3 _ _ _ _ ih => exact ih (sweep_inv order _ h)

theorem iterate_converged (order : List Int) (fuel : Nat) (sol : Sol) (n : Nat)
    (h : (iterate E defs order fuel sol n).2.1 = true) :
    chkFix E defs order (iterate E defs order fuel sol n).1 = true := by
  fun_induction iterate E defs order fuel sol n with
  | case1 => exact h
  | case2 _ _ _ hc => exact hc
  | case3 _ _ _ _ ih => exact ih h

theorem chkFix_iff {nodes : List Int} {sol : Sol} :
    chkFix E defs nodes sol = true ↔
      (∀ p u, (p, u) ∈ E → p ∈ nodes ∧ u ∈ nodes ∧ ∀ d ∈ sol.outs p, d ∈ sol.ins u) ∧
      ∀ u ∈ nodes, (∀ d ∈ sol.ins u, d.1 ∈ defsOf defs u ∨ d ∈ sol.outs u) ∧
        ∀ sym ∈ defsOf defs u, (sym, u) ∈ sol.outs u := by
  simp only [chkFix, subset, Bool.and_eq_true, Bool.or_eq_true, List.all_eq_true, List.contains_iff_mem,
    Prod.forall, and_assoc]

/-- no hypothesis for in sets: they are only reached over an edge, and edges lie inside `nodes` -/
theorem chkFix_complete {nodes : List Int} {sol : Sol} (h : chkFix E defs nodes sol = true) :
    (∀ d u, ReachOut (EdgeOf E) (defsOf defs) d u → u ∈ nodes → d ∈ sol.outs u) ∧
    (∀ d u, ReachIn (EdgeOf E) (defsOf defs) d u → d ∈ sol.ins u) := by
  obtain ⟨hE, hN⟩ := chkFix_iff.1 h
  have hout : ∀ d u, ReachOut (EdgeOf E) (defsOf defs) d u → u ∈ nodes → d ∈ sol.outs u := by
    intro d u hr
    induction hr with
    | gen hsym => exact fun hu => (hN _ hu).2 _ hsym
    | step _ he hnd ih =>
      intro hu
      obtain ⟨hp, -, hsub⟩ := hE _ _ he
      exact ((hN _ hu).1 _ (hsub _ (ih hp))).resolve_left hnd
  exact ⟨hout, fun d u ⟨p, hp, he⟩ => (hE _ _ he).2.2 d (hout d p hp (hE _ _ he).1)⟩

theorem chkFix_of_eqns {nodes : List Int} {sol : Sol} (hE : ∀ p u, (p, u) ∈ E → p ∈ nodes ∧ u ∈ nodes)
    (h : ∀ u ∈ nodes, sol.ins u = unionAll sol.outs (preds E u) ∧
      sol.outs u = transferIdeal u (defsOf defs u) (sol.ins u)) : chkFix E defs nodes sol = true := by
  refine chkFix_iff.2 ⟨fun p u hpu => ⟨(hE p u hpu).1, (hE p u hpu).2, fun d hd => ?_⟩,
    fun u hu => ⟨fun d hd => ?_, fun sym hs => ?_⟩⟩
  · rw [(h u (hE p u hpu).2).1]
    exact mem_unionAll.2 ⟨p, mem_preds.2 hpu, hd⟩
  · rw [(h u hu).2, mem_transferIdeal]
    exact (Decidable.em (d.1 ∈ defsOf defs u)).imp_right fun hk => .inl ⟨hd, hk⟩
  · rw [(h u hu).2, mem_transferIdeal]
    exact .inr ⟨rfl, hs⟩

theorem patchExit_ins {sol : Sol} {u : Int} (hu : u ≠ -1) : (patchExit E sol).ins u = sol.ins u :=
  upd_other _ _ hu

theorem sweep_notin {order : List Int} {x : Int} (hx : x ∉ order) (sol : Sol) :
    (sweep E defs order sol).outs x = sol.outs x ∧ (sweep E defs order sol).ins x = sol.ins x :=
  List.foldlRecOn order (visitIdeal E defs) (motive := fun s => s.outs x = sol.outs x ∧ s.ins x = sol.ins x)
    ⟨rfl, rfl⟩ fun _ hs u hu =>
      have hxu : x ≠ u := fun e => hx (e ▸ hu)
      ⟨(upd_other _ _ hxu).trans hs.1, (upd_other _ _ hxu).trans hs.2⟩

/-- Whatever the start tables: when `u` is visited the out sets of its predecessors are final (they are
earlier in the order or outside it), and `u` is not visited again. -/
theorem sweep_eqns (hne : ∀ p u, (p, u) ∈ E → p ≠ u) : ∀ (order : List Int) (sol : Sol), order.Nodup →
    order.Pairwise (fun a b => (b, a) ∉ E) →
    ∀ u ∈ order,
      (sweep E defs order sol).ins u = unionAll (sweep E defs order sol).outs (preds E u) ∧
      (sweep E defs order sol).outs u =
        transferIdeal u (defsOf defs u) ((sweep E defs order sol).ins u)
  | x :: xs, sol, hnd, hpw, u, hu => by
    obtain ⟨hx, hnd'⟩ := List.nodup_cons.1 hnd
    obtain ⟨hback, hpw'⟩ := List.pairwise_cons.1 hpw
    rw [sweep_cons]
    rcases List.mem_cons.1 hu with rfl | hu
    · have hpre : ∀ p ∈ preds E u, sol.outs p = (sweep E defs xs (visitIdeal E defs sol u)).outs p := by
        intro p hp
        rw [(sweep_notin (fun h => hback p h (mem_preds.1 hp)) _).1]
        exact (upd_other _ _ (hne p u (mem_preds.1 hp))).symm
      obtain ⟨ho, hi⟩ := sweep_notin hx (visitIdeal E defs sol u)
      rw [ho, hi, ← unionAll_congr hpre]
      simp only [visitIdeal, upd_same, and_self]
    · exact sweep_eqns hne xs _ hnd' hpw' u hu

theorem nodup_of_nodupB : ∀ (l : List Int), nodupB l = true → l.Nodup
  | [], _ => .nil
  | x :: xs, h => by
    obtain ⟨hx, hxs⟩ : x ∉ xs ∧ nodupB xs = true := by simpa [nodupB] using h
    exact List.nodup_cons.2 ⟨hx, nodup_of_nodupB xs hxs⟩

theorem sweep_topo_chkFix {order : List Int} (htopo : isTopo E order = true)
    (hnd : nodupB order = true) (sol : Sol) : chkFix E defs order (sweep E defs order sol) = true := by
  have hT : ∀ p u, (p, u) ∈ E → p ∈ order ∧ u ∈ order ∧ posOf order p < posOf order u := by
    intro p u hpu
    simpa only [Bool.and_eq_true, List.contains_iff_mem, decide_eq_true_eq, and_assoc] using
      List.all_eq_true.1 htopo (p, u) hpu
  have hnd := nodup_of_nodupB order hnd
  have hpw : order.Pairwise (fun a b => (b, a) ∉ E) := by
    rw [List.pairwise_iff_getElem]
    intro i j hi hj hij he
    have := (hT _ _ he).2.2
    rw [posOf, posOf, hnd.idxOf_getElem, hnd.idxOf_getElem] at this
    exact Nat.lt_asymm hij this
  have hne : ∀ p u, (p, u) ∈ E → p ≠ u := fun p u h => mt (congrArg (posOf order)) (Nat.ne_of_lt (hT p u h).2.2)
  exact chkFix_of_eqns (fun p u h => ⟨(hT p u h).1, (hT p u h).2.1⟩) (sweep_eqns hne order sol hnd hpw)

theorem isPath_tail {a : Int} : ∀ {l : List Int}, isPath E (a :: l) = true → isPath E l = true
  | [], _ => rfl
  | _ :: _, h => (Bool.and_eq_true_iff.1 h).2

theorem isPath_suffix : ∀ (pre rest : List Int), isPath E (pre ++ rest) = true → isPath E rest = true
  | [], _, h => h
  | _ :: pre, rest, h => isPath_suffix pre rest (isPath_tail h)

theorem clearSeg_iff {sym : Int} {seg : List Int} :
    clearSeg defs sym seg = true ↔ ∀ n ∈ seg, sym ∉ defsOf defs n := by
  simp [clearSeg]

theorem reach_along {d : Def} {u : Int} : ∀ (mid : List Int) (x : Int),
    ReachOut (EdgeOf E) (defsOf defs) d x → isPath E (x :: (mid ++ [u])) = true →
    (∀ n ∈ mid, d.1 ∉ defsOf defs n) → ReachIn (EdgeOf E) (defsOf defs) d u
  | [], x, hx, hp, _ => ⟨x, hx, List.contains_iff_mem.1 (Bool.and_eq_true_iff.1 hp).1⟩
  | m :: ms, _, hx, hp, hc =>
    have hp := Bool.and_eq_true_iff.1 hp
    reach_along ms m (.step hx (List.contains_iff_mem.1 hp.1) (hc m List.mem_cons_self)) hp.2
      fun n hn => hc n (List.mem_cons_of_mem _ hn)

theorem once_imp_reachIn {loopTrue : List (Int × Int)} {entry : Int} {d : Def} {u : Int}
    (h : ReachInOnce E defs loopTrue entry d u) : ReachIn (EdgeOf E) (defsOf defs) d u := by
  obtain ⟨pre, mid, hw⟩ := h
  unfold onceWitness at hw
  simp only [Bool.and_eq_true] at hw
  obtain ⟨⟨⟨⟨_, hpath⟩, _⟩, hdef⟩, hclear⟩ := hw
  rw [List.append_assoc, List.append_assoc] at hpath
  obtain ⟨a, b⟩ := d
  exact reach_along mid b (.gen (List.contains_iff_mem.1 hdef)) (isPath_suffix pre _ hpath)
    (clearSeg_iff.1 hclear)

theorem not_reachIn_of_killed {d : Def} {u : Int}
    (h : ∀ p ∈ preds E u, p ≠ d.2 ∧ d.1 ∈ defsOf defs p) : ¬ ReachIn (EdgeOf E) (defsOf defs) d u := by
  rintro ⟨p, hp, he⟩
  obtain ⟨hne, hk⟩ := h p (mem_preds.2 he)
  cases hp with
  | gen _ => exact hne rfl
  | step _ _ hnd => exact hnd hk

theorem mem_register_of_defsOf (I : Input) {sym s : Int} (h : sym ∈ defsOf I.defs s) :
    (sym, s) ∈ register I := by
  unfold defsOf at h
  split at h
  · next l hl =>
    obtain ⟨l₁, l₂, hl, -⟩ := List.lookup_eq_some_iff.1 hl
    exact List.mem_flatMap.2 ⟨(s, l), by simp [hl], List.mem_map.2 ⟨sym, h, rfl⟩⟩
  · simp at h

def RegInv (I : Input) (st : St) : Prop :=
  (∀ u d, d ∈ st.outs u → d ∈ register I) ∧ (∀ u d, d ∈ st.ins u → d ∈ register I) ∧
  (∀ l ∈ st.inTrace, ∀ d ∈ l, d ∈ register I)

theorem regInv_init (I : Input) (G : Graph) : RegInv I (init G) := by
  simp [RegInv, init]

theorem step_reg (v : Variant) (I : Input) (G : Graph) (st : St) (h : RegInv I st) :
    RegInv I (step v I G st) := by
  rcases step_cases v I G st with e | ⟨s, -, e⟩ <;> rw [e]
  · exact h
  · have hin : ∀ d ∈ (analyse I G st s).1, d ∈ register I := by
      intro d hd
      obtain ⟨p, _, hdp⟩ := mem_unionAll.1 hd
      exact h.1 p d hdp
    refine ⟨forall_mem_upd h.1 ?_, forall_mem_upd h.2.1 hin, List.forall_mem_cons.2 ⟨hin, h.2.2⟩⟩
    intro d hd
    rcases mem_transfer_imp s _ _ d hd with h1 | ⟨h1, h2⟩
    · exact hin d h1
    · obtain ⟨a, b⟩ := d
      subst h1
      exact mem_register_of_defsOf I h2

theorem useSite_eq_filter {reg avail : List Def} (h : ∀ d ∈ avail, d ∈ reg) (sym : Int) :
    useSite reg avail sym = avail.filter (fun d => d.1 == sym) := by
  unfold useSite
  apply List.filter_congr
  intro d hd
  rw [List.contains_iff_mem.2 (h d hd), Bool.and_true]

/-- remaining push budget: one unit per CFG edge and remaining visit of its source -/
def budget (M : Nat) (c : Int → Nat) (E : List (Int × Int)) : Nat := (E.map fun e => M - c e.1).sum

theorem budget_cons (M : Nat) (c : Int → Nat) (e : Int × Int) (es : List (Int × Int)) :
    budget M c (e :: es) = (M - c e.1) + budget M c es := rfl

theorem budget_le (M : Nat) (c : Int → Nat) (E : List (Int × Int)) : budget M c E ≤ M * E.length :=
  sum_map_le_mul fun _ _ => Nat.sub_le _ _

theorem budget_visit (M : Nat) (c : Int → Nat) (s : Int) (hlt : c s < M) : ∀ E : List (Int × Int),
    budget M (upd c s (c s + 1)) E + (succs E s).length = budget M c E := by
  intro E
  induction E with
  | nil => rfl
  | cons e es ih =>
    rw [budget_cons, budget_cons, succs_cons]
    by_cases he : e.1 = s
    · rw [if_pos he, he, upd_same, List.length_cons]
      omega
    · rw [if_neg he, upd_other _ _ he, Nat.add_assoc, ih]

/-- ranking function of the visit loop -/
def mu (I : Input) (G : Graph) (st : St) : Nat := st.wl.heap.length + budget I.maxRound st.counters G.E

theorem step_mu (v : Variant) (I : Input) (G : Graph) (st : St) (hne : st.wl.heap ≠ []) :
    mu I G (step v I G st) + 1 ≤ mu I G st := by
  have hlen := List.length_pos_iff.2 hne
  have hpop := popV_length v G st.wl
  unfold mu
  rcases step_cases v I G st with e | ⟨s, hlt, e⟩ <;> rw [e]
  · dsimp only
    omega
  · have hb := budget_visit I.maxRound st.counters s hlt G.E
    cases v <;> dsimp only
    · have h1 := add_length G.prio (succs G.E s) st.wl
      have h2 := pop0_length (st.wl.add G.prio (succs G.E s))
      omega
    · have h1 := add_length G.prio (succs G.E s) (popV .r1 G st.wl)
      omega

theorem run_finishes (v : Variant) (I : Input) (G : Graph) : ∀ (fuel : Nat) (st : St),
    mu I G st ≤ fuel → (run v I G fuel st).wl.heap = [] := by
  intro fuel
  induction fuel with
  | zero =>
    intro st h
    show st.wl.heap = []
    exact List.eq_nil_of_length_eq_zero (Nat.add_eq_zero_iff.1 (Nat.le_zero.1 h)).1
  | succ n ih =>
    intro st h
    by_cases hne : st.wl.heap = []
    · exact run_induct (P := fun st => st.wl.heap = []) (fun st h => (step_nil v I G st h).symm ▸ h) _ _ hne
    · exact ih _ (Nat.le_of_succ_le_succ (Nat.le_trans (step_mu v I G st hne) h))

theorem mkGraph_first_le (raw : List (Int × Int)) : (mkGraph raw).first.length ≤ (mkGraph raw).nodes.length := by
  unfold mkGraph
  simp only
  exact List.length_filter_le _ _

/-- Of `runFuel` only `first.length ≤ nodes.length` (the initial queue) and `maxRound * E.length` (the
initial budget) are needed; its `+ 1`, `* 1`, `maxRound * nodes.length` and `+ 2` are slack. -/
theorem init_mu (I : Input) (G : Graph) (hfirst : G.first.length ≤ G.nodes.length) :
    mu I G (init G) ≤ runFuel I G := by
  unfold mu init runFuel
  simp only
  have h1 := (add_length G.prio G.first WL.empty).2
  have h2 := budget_le I.maxRound (fun _ => 0) G.E
  have h0 : (WL.empty).heap.length = 0 := rfl
  have : I.maxRound * G.E.length ≤ I.maxRound * (G.E.length + 1) * 1 := by
    rw [Nat.mul_one]; exact Nat.mul_le_mul_left _ (Nat.le_succ _)
  omega

end LianVerif.ReachDef
