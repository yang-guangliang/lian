/-
The propagation engine of the taint phase (Model/Taint.lean) against its specification (Spec/Reach.lean).

Two characterisations carry everything.  `mem_actsOf`: the actions of a dequeued node are exactly
`Emits` — the one place where the bodies of `_propagate_from_symbol / _state / _stmt` are unfolded.
`taggedLoc_fire`: processing a node adds exactly its `Conseq` to the tag maps.  Soundness (every tag
is justified by `Reach`, for `propagate` and for the saturation `reachSat`) is read off the second;
completeness (Proofs/TaintComplete.lean) uses both, termination (Proofs/TaintTerm.lean) the first,
under the hypotheses `Consistent` and `EdgeTyped` on the serialised graph.
-/
import LianVerif.Model.Taint
import LianVerif.Spec.Reach
import LianVerif.Proofs.ListAux

namespace LianVerif.Taint
open LianVerif.Sfg LianVerif.TaintRules LianVerif.Reach

variable {g : Graph} {prm : Params} {src : Nat}

theorem ite_all {α : Type} (P : α → Prop) {c : Prop} [Decidable c] {a b : α} (ha : P a) (hb : P b) :
    P (if c then a else b) := by
  split <;> assumption

theorem kinds_ne : K_SYMBOL ≠ K_STATE ∧ K_SYMBOL ≠ K_STMT ∧ K_STATE ≠ K_STMT := by decide

/-- the `if / elif` chain on the node kind that `_get_node_tag`, `propagate_taint` and
`_init_source_contamination` share -/
theorem kind_ite {α : Type} (P : α → Prop) (k : Nat) (a b c d : α) (hd : ¬ P d) :
    P (if k == K_SYMBOL then a else if k == K_STATE then b else if k == K_STMT then c else d) ↔
      (k = K_SYMBOL ∧ P a) ∨ (k = K_STATE ∧ P b) ∨ (k = K_STMT ∧ P c) := by
  obtain ⟨h1, h2, h3⟩ := kinds_ne
  by_cases ha : k = K_SYMBOL
  · subst ha
    simp only [beq_self_eq_true, if_true, true_and, h1, h2, false_and, or_false]
  · by_cases hb : k = K_STATE
    · subst hb
      simp only [beq_iff_eq, h1.symm, h3, if_false, if_true, true_and, false_and, or_false, false_or]
    · by_cases hc : k = K_STMT
      · subst hc
        simp only [beq_iff_eq, h2.symm, h3.symm, if_false, if_true, true_and, false_and, false_or]
      · simp only [beq_iff_eq, ha, hb, hc, if_false, false_and, or_false, hd]

def Consistent (g : Graph) : Prop :=
  (∀ u e, e ∈ g.outE u → u < g.size ∧ e.peer < g.size ∧
    ({ peer := u, etype := e.etype, pos := e.pos } : Edge) ∈ g.inE e.peer) ∧
  (∀ u e, e ∈ g.inE u → u < g.size ∧ e.peer < g.size ∧
    ({ peer := u, etype := e.etype, pos := e.pos } : Edge) ∈ g.outE e.peer)

/-- the Boolean check `edgeTyped` (Model/Taint.lean) as a proposition -/
def EdgeTyped (g : Graph) : Prop :=
  ∀ u e, e ∈ g.outE u →
    (e.etype = E_SYMSTATE → g.kindOf u = K_SYMBOL ∧ g.kindOf e.peer = K_STATE) ∧
    (e.etype = E_USED → g.kindOf e.peer = K_STMT)

theorem outE_of_ge {u : Nat} (h : g.out.length ≤ u) : g.outE u = [] := by
  unfold Graph.outE
  simp [List.getD_eq_getElem?_getD, List.getElem?_eq_none h]

theorem inE_of_ge {u : Nat} (h : g.inn.length ≤ u) : g.inE u = [] := by
  unfold Graph.inE
  simp [List.getD_eq_getElem?_getD, List.getElem?_eq_none h]

theorem kindOf_of_ge {u : Nat} (h : g.size ≤ u) : g.kindOf u = 0 := by
  unfold Graph.kindOf Graph.node
  unfold Graph.size at h
  rw [List.getD_eq_getElem?_getD, List.getElem?_eq_none h]
  rfl

theorem consistent_of_wf (h : g.wf = true) : Consistent g := by
  unfold Graph.wf at h
  simp only [Bool.and_eq_true, beq_iff_eq, List.all_eq_true, List.mem_range, decide_eq_true_eq] at h
  obtain ⟨⟨ho, hi⟩, hall⟩ := h
  constructor
  · intro u e he
    by_cases hu : u < g.nodes.length
    · exact ⟨hu, ((hall u hu).1 e he).1, List.contains_iff_mem.1 ((hall u hu).1 e he).2⟩
    · rw [outE_of_ge (ho ▸ Nat.le_of_not_lt hu)] at he; exact absurd he (by simp)
  · intro u e he
    by_cases hu : u < g.nodes.length
    · exact ⟨hu, ((hall u hu).2 e he).1, List.contains_iff_mem.1 ((hall u hu).2 e he).2⟩
    · rw [inE_of_ge (hi ▸ Nat.le_of_not_lt hu)] at he; exact absurd he (by simp)

theorem edgeTyped_of_check (hc : Consistent g) (h : edgeTyped g = true) :
    EdgeTyped g := by
  unfold edgeTyped at h
  simp only [List.all_eq_true, List.mem_range, Bool.and_eq_true, Bool.or_eq_true, bne_iff_ne,
    ne_eq, beq_iff_eq] at h
  intro u e he
  have := h u (hc.1 u e he).1 e he
  exact ⟨fun het => this.1.resolve_left (fun hn => hn het),
    fun het => this.2.resolve_left (fun hn => hn het)⟩

theorem taggedLoc_sym {s : PState} {i : Int} : TaggedLoc s (true, i) ↔ i ∈ s.symT := by
  simp [TaggedLoc]

theorem taggedLoc_st {s : PState} {i : Int} : TaggedLoc s (false, i) ↔ i ∈ s.stT := by
  simp [TaggedLoc]

/-- `_get_node_tag(u) != 0` when the tag maps hold exactly the locations in `P` -/
def Hot (P : Loc → Prop) (g : Graph) (u : Nat) : Prop :=
  (g.kindOf u = K_SYMBOL ∧ P (symLoc g u)) ∨ (g.kindOf u = K_STATE ∧ P (stLoc g u)) ∨
  (g.kindOf u = K_STMT ∧ ∃ e ∈ g.inE u, e.etype = E_USED ∧ P (symLoc g e.peer))

theorem Hot.mono {P Q : Loc → Prop} {u : Nat} (h : ∀ l, P l → Q l) (hu : Hot P g u) : Hot Q g u :=
  hu.imp (.imp_right (h _)) (.imp (.imp_right (h _))
    fun ⟨hk, e, he, het, hp⟩ => ⟨hk, e, he, het, h _ hp⟩)

theorem nodeTag_iff {s : PState} {u : Nat} : nodeTag g s u = true ↔ Hot (TaggedLoc s) g u := by
  unfold nodeTag Hot
  refine (kind_ite (· = true) _ _ _ _ _ (by simp)).trans ?_
  simp only [List.contains_iff_mem, List.any_eq_true, Bool.and_eq_true, beq_iff_eq, symLoc, stLoc,
    taggedLoc_sym, taggedLoc_st]

theorem nodeTag_sym {s : PState} {v : Nat} (hk : g.kindOf v = K_SYMBOL) :
    nodeTag g s v = true ↔ g.nid v ∈ s.symT := by
  refine nodeTag_iff.trans ⟨?_, fun h => .inl ⟨hk, taggedLoc_sym.2 h⟩⟩
  rintro (⟨_, h⟩ | ⟨hk', _⟩ | ⟨hk', _⟩)
  · exact taggedLoc_sym.1 h
  · exact absurd (hk.symm.trans hk') kinds_ne.1
  · exact absurd (hk.symm.trans hk') kinds_ne.2.1

theorem nodeTag_st {s : PState} {v : Nat} (hk : g.kindOf v = K_STATE) (h : g.nid v ∈ s.stT) :
    nodeTag g s v = true :=
  nodeTag_iff.2 (.inr (.inl ⟨hk, taggedLoc_st.2 h⟩))

theorem nodeTag_stmt {s : PState} {v : Nat} {e : Edge} (hk : g.kindOf v = K_STMT) (he : e ∈ g.inE v)
    (het : e.etype = E_USED) (h : g.nid e.peer ∈ s.symT) : nodeTag g s v = true :=
  nodeTag_iff.2 (.inr (.inr ⟨hk, e, he, het, taggedLoc_sym.2 h⟩))

theorem hot_iff {T : List Loc} {u : Nat} : hot g T u = true ↔ Hot (· ∈ T) g u := by
  unfold hot Hot
  refine (kind_ite (· = true) _ _ _ _ _ (by simp)).trans ?_
  simp only [List.contains_iff_mem, List.any_eq_true, Bool.and_eq_true, beq_iff_eq]

theorem consts_ne : E_USED ≠ E_SYMSTATE ∧ E_FLOW ≠ E_SYMSTATE ∧ E_FLOW ≠ E_USED ∧
    E_IFLOW ≠ E_SYMSTATE ∧ E_IFLOW ≠ E_USED := by decide

/-- the iterations of `_propagate_from_symbol / _state / _stmt` that do something, edge by edge:
the unconditional SYMBOL_IS_USED enqueue, and one constructor per constructor of `Conseq`, with the
action in place of the location.  `Conseq` itself cannot serve: it speaks of ids, while which NODE
is enqueued (several may share the id) and whether by `tagSym` or `tagSymP` is what completeness and
termination turn on.  `conseq_iff_emits` says the two agree. -/
inductive Emits (g : Graph) (prm : Params) : Nat → Act → Prop where
  | symState {u : Nat} {e : Edge} : g.kindOf u = K_SYMBOL → e ∈ g.outE u → e.etype = E_SYMSTATE →
      Emits g prm u (.tagSt e.peer)
  | use {u : Nat} {e : Edge} : g.kindOf u = K_SYMBOL → e ∈ g.outE u → e.etype = E_USED →
      Emits g prm u (.enq e.peer)
  | symFlow {u : Nat} {e : Edge} : g.kindOf u = K_SYMBOL → e ∈ g.outE u →
      (e.etype = E_FLOW ∨ e.etype = E_IFLOW) → g.kindOf e.peer = K_SYMBOL →
      Emits g prm u (.tagSym e.peer)
  | stateUp {u : Nat} {e : Edge} : g.kindOf u = K_STATE → e ∈ g.inE u →
      (e.etype = E_SYMSTATE ∨ e.etype = E_INCL) →
      (prm.stateUpSymOnly = true → g.kindOf e.peer = K_SYMBOL) → Emits g prm u (.tagSym e.peer)
  | stateDown {u : Nat} {e : Edge} : g.kindOf u = K_STATE → e ∈ g.outE u →
      g.kindOf e.peer = K_STATE → (e.etype = E_INCL ∨ e.etype = E_IINCL) →
      Emits g prm u (.tagSt e.peer)
  | stmtDef {u : Nat} {e : Edge} : g.kindOf u = K_STMT → propagates prm (g.node u).name = true →
      e ∈ g.outE u → e.etype = E_DEFINED → Emits g prm u (.tagSymP e.peer)
  | recv {u : Nat} {e : Edge} : g.kindOf u = K_STMT → propagates prm (g.node u).name = true →
      (g.node u).name = "object_call_stmt" → e ∈ g.inE u → e.etype = E_USED → e.pos = 0 →
      g.kindOf e.peer = K_SYMBOL → Emits g prm u (.tagSymP e.peer)

theorem ite_some_eq_some {α : Type} {c : Prop} [Decidable c] {x a : α} {y : Option α} :
    (if c then some x else y) = some a ↔ (c ∧ x = a) ∨ (¬ c ∧ y = some a) := by
  split <;> simp [*]

theorem mem_filterMap_ite {l : List Edge} {c : Edge → Bool} {f : Edge → Act} {a : Act} :
    a ∈ l.filterMap (fun e => if c e then some (f e) else none) ↔ ∃ e ∈ l, c e = true ∧ f e = a := by
  simp only [List.mem_filterMap, Option.ite_none_right_eq_some, Option.some.injEq]

theorem beq_or_beq {a b c : Nat} : (a == b || a == c) = true ↔ a = b ∨ a = c := by
  rw [Bool.or_eq_true, beq_iff_eq, beq_iff_eq]

theorem not_or_beq {p : Bool} {a b : Nat} : (!p || a == b) = true ↔ (p = true → a = b) := by
  cases p <;> simp

theorem mem_actsOf {u : Nat} {a : Act} : a ∈ actsOf g prm u ↔ Emits g prm u a := by
  unfold actsOf
  refine (kind_ite (a ∈ ·) _ _ _ _ _ List.not_mem_nil).trans ?_
  obtain ⟨hUS, hFS, hFU, hIS, hIU⟩ := consts_ne
  constructor
  · rintro (⟨hk, h⟩ | ⟨hk, h⟩ | ⟨hk, h⟩)
    · obtain ⟨e, he, h⟩ := List.mem_filterMap.1 h
      rw [ite_some_eq_some, ite_some_eq_some, Option.ite_none_right_eq_some,
        Option.ite_none_right_eq_some] at h
      rcases h with ⟨h1, rfl⟩ | ⟨_, ⟨h2, rfl⟩ | ⟨_, h3, h4, h⟩⟩
      · exact .symState hk he (beq_iff_eq.1 h1)
      · exact .use hk he (beq_iff_eq.1 h2)
      · cases h
        exact .symFlow hk he (beq_or_beq.1 h3) (beq_iff_eq.1 h4)
    · rcases List.mem_append.1 h with h | h
      · obtain ⟨e, he, h1, rfl⟩ := mem_filterMap_ite.1 h
        rw [Bool.and_eq_true] at h1
        exact .stateUp hk he (beq_or_beq.1 h1.1) (not_or_beq.1 h1.2)
      · obtain ⟨e, he, h1, rfl⟩ := mem_filterMap_ite.1 h
        rw [Bool.and_eq_true] at h1
        exact .stateDown hk he (beq_iff_eq.1 h1.1) (beq_or_beq.1 h1.2)
    · unfold actsStmt at h
      rw [List.mem_ite_nil_right, List.mem_append, List.mem_ite_nil_right] at h
      obtain ⟨hp, h | ⟨hn, h⟩⟩ := h
      · obtain ⟨e, he, h1, rfl⟩ := mem_filterMap_ite.1 h
        exact .stmtDef hk hp he (beq_iff_eq.1 h1)
      · obtain ⟨e, he, h1, rfl⟩ := mem_filterMap_ite.1 h
        simp only [Bool.and_eq_true, beq_iff_eq] at h1
        exact .recv hk hp (beq_iff_eq.1 hn) he h1.1.1 h1.1.2 h1.2
  · intro h
    cases h with
    | symState hk he het =>
      exact .inl ⟨hk, List.mem_filterMap.2 ⟨_, he, if_pos (beq_iff_eq.2 het)⟩⟩
    | use hk he het =>
      refine .inl ⟨hk, List.mem_filterMap.2 ⟨_, he, ?_⟩⟩
      rw [if_neg (mt beq_iff_eq.1 (het ▸ hUS)), if_pos (beq_iff_eq.2 het)]
    | symFlow hk he het hpk =>
      rename_i e
      have hne : e.etype ≠ E_SYMSTATE ∧ e.etype ≠ E_USED :=
        het.elim (fun h => h ▸ ⟨hFS, hFU⟩) (fun h => h ▸ ⟨hIS, hIU⟩)
      refine .inl ⟨hk, List.mem_filterMap.2 ⟨_, he, ?_⟩⟩
      rw [if_neg (mt beq_iff_eq.1 hne.1), if_neg (mt beq_iff_eq.1 hne.2),
        if_pos (beq_or_beq.2 het), if_pos (beq_iff_eq.2 hpk)]
    | stateUp hk he het hs =>
      exact .inr (.inl ⟨hk, List.mem_append.2 (.inl (mem_filterMap_ite.2
        ⟨_, he, Bool.and_eq_true_iff.2 ⟨beq_or_beq.2 het, not_or_beq.2 hs⟩, rfl⟩))⟩)
    | stateDown hk he hpk het =>
      exact .inr (.inl ⟨hk, List.mem_append.2 (.inr (mem_filterMap_ite.2
        ⟨_, he, Bool.and_eq_true_iff.2 ⟨beq_iff_eq.2 hpk, beq_or_beq.2 het⟩, rfl⟩))⟩)
    | stmtDef hk hp he het =>
      refine .inr (.inr ⟨hk, ?_⟩)
      unfold actsStmt
      rw [if_pos hp]
      exact List.mem_append.2 (.inl (mem_filterMap_ite.2 ⟨_, he, beq_iff_eq.2 het, rfl⟩))
    | recv hk hp hn he het hpos hpk =>
      refine .inr (.inr ⟨hk, ?_⟩)
      unfold actsStmt
      rw [if_pos hp, if_pos (beq_iff_eq.2 hn)]
      exact List.mem_append.2 (.inr (mem_filterMap_ite.2
        ⟨_, he, by rw [het, hpos, hpk]; rfl, rfl⟩))

theorem conseq_iff_emits {u : Nat} {l : Loc} :
    Conseq g prm u l ↔ ∃ a, Emits g prm u a ∧ actLoc g a = some l := by
  refine ⟨fun h => ?_, fun ⟨a, h, hl⟩ => ?_⟩
  · cases h with
    | symState hk he het => exact ⟨_, .symState hk he het, rfl⟩
    | symFlow hk he het hpk => exact ⟨_, .symFlow hk he het hpk, rfl⟩
    | stateUp hk he het hs => exact ⟨_, .stateUp hk he het hs, rfl⟩
    | stateDown hk he hpk het => exact ⟨_, .stateDown hk he hpk het, rfl⟩
    | stmtDef hk hp he het => exact ⟨_, .stmtDef hk hp he het, rfl⟩
    | recv hk hp hn he het hpos hpk => exact ⟨_, .recv hk hp hn he het hpos hpk, rfl⟩
  · cases h with
    | symState hk he het => cases hl; exact .symState hk he het
    | use _ _ _ => cases hl
    | symFlow hk he het hpk => cases hl; exact .symFlow hk he het hpk
    | stateUp hk he het hs => cases hl; exact .stateUp hk he het hs
    | stateDown hk he hpk het => cases hl; exact .stateDown hk he hpk het
    | stmtDef hk hp he het => cases hl; exact .stmtDef hk hp he het
    | recv hk hp hn he het hpos hpk => cases hl; exact .recv hk hp hn he het hpos hpk

theorem mem_conseqs {u : Nat} {l : Loc} : l ∈ conseqs g prm u ↔ Conseq g prm u l := by
  simp only [conseqs, List.mem_filterMap, mem_actsOf, conseq_iff_emits]

def actNode : Act → Nat
  | .tagSym v => v
  | .tagSymP v => v
  | .tagSt v => v
  | .enq v => v

/-- the typing of actions on a consistent, edge-typed graph (`Emits.ok`) under which one action only
adds to the state (`Grow`, Proofs/TaintComplete.lean) and pays for what it enqueues (`Pays`,
Proofs/TaintTerm.lean).  A symbol-table action need not aim at a SYMBOL node: `symOwner`
(Model/Taint.lean) lists what it can aim at. -/
def ActOK (g : Graph) : Act → Prop
  | .tagSym v => symOwner g v = true
  | .tagSymP v => symOwner g v = true
  | .tagSt v => g.kindOf v = K_STATE
  | .enq v => g.kindOf v = K_STMT

theorem symOwner_iff {x : Nat} : symOwner g x = true ↔ g.kindOf x = K_SYMBOL ∨
    (∃ e ∈ g.outE x, e.etype = E_INCL) ∨ ∃ e ∈ g.inE x, e.etype = E_DEFINED := by
  simp only [symOwner, Bool.or_eq_true, List.any_eq_true, beq_iff_eq, or_assoc]

theorem Emits.ok {u : Nat} {a : Act} (hc : Consistent g) (ht : EdgeTyped g) (h : Emits g prm u a) :
    actNode a < g.size ∧ ActOK g a := by
  cases h with
  | symState _ he het => exact ⟨(hc.1 _ _ he).2.1, ((ht _ _ he).1 het).2⟩
  | use _ he het => exact ⟨(hc.1 _ _ he).2.1, (ht _ _ he).2 het⟩
  | symFlow _ he _ hpk => exact ⟨(hc.1 _ _ he).2.1, symOwner_iff.2 (.inl hpk)⟩
  | stateUp _ he het _ =>
    obtain ⟨_, hlt, hout⟩ := hc.2 _ _ he
    exact ⟨hlt, symOwner_iff.2 (het.elim (fun h => .inl ((ht _ _ hout).1 h).1)
      (fun h => .inr (.inl ⟨_, hout, h⟩)))⟩
  | stateDown _ he hpk _ => exact ⟨(hc.1 _ _ he).2.1, hpk⟩
  | stmtDef _ _ he het =>
    exact ⟨(hc.1 _ _ he).2.1, symOwner_iff.2 (.inr (.inr ⟨_, (hc.1 _ _ he).2.2, het⟩))⟩
  | recv _ _ _ he _ _ hpk => exact ⟨(hc.2 _ _ he).2.1, symOwner_iff.2 (.inl hpk)⟩

@[simp] theorem enqueue_symT (s : PState) (v : Nat) : (enqueue s v).symT = s.symT := by
  unfold enqueue; split <;> rfl
@[simp] theorem enqueue_stT (s : PState) (v : Nat) : (enqueue s v).stT = s.stT := by
  unfold enqueue; split <;> rfl
@[simp] theorem enqueue_processed (s : PState) (v : Nat) : (enqueue s v).processed = s.processed := by
  unfold enqueue; split <;> rfl

theorem enqueue_wl (s : PState) (v : Nat) :
    (enqueue s v).wl = if s.wl.contains v then s.wl else s.wl ++ [v] := by
  unfold enqueue; split <;> rfl

theorem mem_enqueue_iff {s : PState} {v x : Nat} : x ∈ (enqueue s v).wl ↔ x ∈ s.wl ∨ x = v := by
  rw [enqueue_wl]
  exact mem_addUnless

theorem taggedLoc_enqueue {s : PState} {v : Nat} {l : Loc} :
    TaggedLoc (enqueue s v) l ↔ TaggedLoc s l := by
  simp only [TaggedLoc, enqueue_symT, enqueue_stT]

theorem taggedLoc_consSym {s : PState} {i : Int} {l : Loc} :
    TaggedLoc { s with symT := i :: s.symT } l ↔ TaggedLoc s l ∨ (true, i) = l := by
  obtain ⟨b, j⟩ := l
  cases b <;> simp [TaggedLoc, eq_comm, or_comm]

theorem taggedLoc_consSt {s : PState} {i : Int} {l : Loc} :
    TaggedLoc { s with stT := i :: s.stT } l ↔ TaggedLoc s l ∨ (false, i) = l := by
  obtain ⟨b, j⟩ := l
  cases b <;> simp [TaggedLoc, eq_comm, or_comm]

theorem applyAct_cases (g : Graph) (s : PState) (a : Act) {motive : PState → Prop}
    (same : (∀ l, actLoc g a = some l → TaggedLoc s l) → motive s)
    (enq : ∀ v, a = .enq v → motive (enqueue s v))
    (again : ∀ v, a = .tagSymP v → g.nid v ∈ s.symT → v ∉ s.processed → motive (enqueue s v))
    (sym : ∀ v, a = .tagSym v ∨ a = .tagSymP v → g.nid v ∉ s.symT →
      motive (enqueue { s with symT := g.nid v :: s.symT } v))
    (st : ∀ v, a = .tagSt v → g.nid v ∉ s.stT →
      motive (enqueue { s with stT := g.nid v :: s.stT } v)) : motive (applyAct g s a) := by
  have mem {t : List Int} {i : Int} : t.contains i = true ↔ i ∈ t := List.contains_iff_mem
  cases a with
  | tagSym v =>
    simp only [applyAct]
    split
    · rename_i h; exact same (fun l hl => by cases hl; exact taggedLoc_sym.2 (mem.1 h))
    · rename_i h; exact sym v (.inl rfl) (mt mem.2 h)
  | tagSymP v =>
    simp only [applyAct]
    split
    · rename_i h
      split
      · exact same (fun l hl => by cases hl; exact taggedLoc_sym.2 (mem.1 h))
      · rename_i hp; exact again v rfl (mem.1 h) (mt List.contains_iff_mem.2 hp)
    · rename_i h; exact sym v (.inr rfl) (mt mem.2 h)
  | tagSt v =>
    simp only [applyAct]
    split
    · rename_i h; exact same (fun l hl => by cases hl; exact taggedLoc_st.2 (mem.1 h))
    · rename_i h; exact st v rfl (mt mem.2 h)
  | enq v => exact enq v rfl

theorem taggedLoc_applyAct (g : Graph) (s : PState) (a : Act) (l : Loc) :
    TaggedLoc (applyAct g s a) l ↔ TaggedLoc s l ∨ actLoc g a = some l := by
  refine applyAct_cases g s a (motive := fun t => TaggedLoc t l ↔ TaggedLoc s l ∨ actLoc g a = some l)
    (fun h => ⟨.inl, fun h' => h'.elim id (h l)⟩) (fun v hv => ?_) (fun v hv hin _ => ?_)
    (fun v hv _ => ?_) (fun v hv _ => ?_)
  · subst hv
    simp only [taggedLoc_enqueue, actLoc, reduceCtorEq, or_false]
  · subst hv
    rw [taggedLoc_enqueue]
    exact ⟨.inl, fun h' => h'.elim id (fun h => by cases h; exact taggedLoc_sym.2 hin)⟩
  · rw [taggedLoc_enqueue, taggedLoc_consSym]
    rcases hv with rfl | rfl <;> simp only [actLoc, symLoc, Option.some.injEq]
  · subst hv
    rw [taggedLoc_enqueue, taggedLoc_consSt]
    simp only [actLoc, stLoc, Option.some.injEq]

theorem taggedLoc_fire {s : PState} {u : Nat} {l : Loc} :
    TaggedLoc ((actsOf g prm u).foldl (applyAct g) s) l ↔ TaggedLoc s l ∨ Conseq g prm u l := by
  rw [← mem_conseqs, conseqs, List.mem_filterMap]
  exact foldl_or_iff (P := (TaggedLoc · l)) (fun s a => taggedLoc_applyAct g s a l) _ s

def deq (s : PState) (u : Nat) (rest : List Nat) : PState :=
  { s with wl := rest, processed := addNode s.processed u }

theorem mem_addNode {l : List Nat} {x y : Nat} : y ∈ addNode l x ↔ y ∈ l ∨ y = x :=
  (List.mem_insert_iff (l := l)).trans or_comm

theorem step_nil {s : PState} (h : s.wl = []) : step g prm s = s := by
  unfold step; rw [h]

/-- `step` reads the node's tag after the dequeue; `nodeTag` looks at the tag tables only, which
`deq` leaves alone, so it is taken on `s` here. -/
theorem step_cons {s : PState} {u : Nat} {rest : List Nat} (h : s.wl = u :: rest) :
    step g prm s =
      if nodeTag g s u then (actsOf g prm u).foldl (applyAct g) (deq s u rest) else deq s u rest := by
  unfold step; rw [h]; rfl

theorem run_inv {P : PState → Prop} (hstep : ∀ s, P s → P (step g prm s)) (fuel : Nat) {s : PState}
    (h : P s) : P (run g prm fuel s) := by
  induction fuel generalizing s with
  | zero => exact h
  | succ n ih =>
    unfold run
    split
    · exact h
    · exact ih (hstep s h)

/-- the loop of `_init_source_contamination` over the successors of a SYMBOL source -/
def initF (g : Graph) (s : PState) (e : Edge) : PState :=
  if e.etype == E_SYMSTATE then enqueue { s with stT := addId s.stT (g.nid e.peer) } e.peer else s

theorem mem_addId {l : List Int} {i j : Int} : j ∈ addId l i ↔ j ∈ l ∨ j = i :=
  (List.mem_insert_iff (l := l)).trans or_comm

theorem taggedLoc_initF {s : PState} {e : Edge} {l : Loc} :
    TaggedLoc (initF g s e) l ↔ TaggedLoc s l ∨ (e.etype = E_SYMSTATE ∧ stLoc g e.peer = l) := by
  unfold initF
  split
  · rename_i h
    obtain ⟨b, j⟩ := l
    cases b <;> simp [TaggedLoc, mem_addId, stLoc, beq_iff_eq.1 h, eq_comm]
  · rename_i h
    simp [show ¬ e.etype = E_SYMSTATE from fun h' => h (beq_iff_eq.2 h')]

theorem initState_eq : initState g src =
    if g.kindOf src == K_SYMBOL then
      (g.outE src).foldl (initF g) { wl := [src], symT := [g.nid src] }
    else if g.kindOf src == K_STATE then { wl := [src], stT := [g.nid src] }
    else if g.kindOf src == K_STMT then { wl := [src] }
    else {} := rfl

theorem taggedLoc_init {l : Loc} : TaggedLoc (initState g src) l ↔
    (g.kindOf src = K_SYMBOL ∧
      (symLoc g src = l ∨ ∃ e ∈ g.outE src, e.etype = E_SYMSTATE ∧ stLoc g e.peer = l)) ∨
    (g.kindOf src = K_STATE ∧ stLoc g src = l) := by
  rw [initState_eq]
  refine (kind_ite (TaggedLoc · l) _ _ _ _ _ (by simp [TaggedLoc])).trans ?_
  rw [foldl_or_iff (f := initF g) (P := (TaggedLoc · l)) (fun s e => taggedLoc_initF)]
  obtain ⟨b, j⟩ := l
  cases b <;> simp [TaggedLoc, symLoc, stLoc, eq_comm]

theorem mem_initF_wl {s : PState} {e : Edge} {v : Nat} :
    v ∈ (initF g s e).wl ↔ v ∈ s.wl ∨ (e.etype = E_SYMSTATE ∧ v = e.peer) := by
  unfold initF
  split
  · rename_i h; rw [mem_enqueue_iff, beq_iff_eq.1 h]; simp
  · rename_i h; simp [show ¬ e.etype = E_SYMSTATE from fun h' => h (beq_iff_eq.2 h')]

theorem mem_init_wl {v : Nat} : v ∈ (initState g src).wl ↔
    (g.kindOf src = K_SYMBOL ∧ (v = src ∨ ∃ e ∈ g.outE src, e.etype = E_SYMSTATE ∧ v = e.peer)) ∨
    (g.kindOf src = K_STATE ∧ v = src) ∨ (g.kindOf src = K_STMT ∧ v = src) := by
  rw [initState_eq]
  refine (kind_ite (fun t : PState => v ∈ t.wl) _ _ _ _ _ (by simp)).trans ?_
  rw [foldl_or_iff (f := initF g) (P := fun t : PState => v ∈ t.wl) (fun s e => mem_initF_wl)]
  simp only [List.mem_singleton]

theorem init_processed : (initState g src).processed = [] := by
  let P := fun s : PState => s.processed = []
  rw [initState_eq]
  refine ite_all P ?_ (ite_all P rfl (ite_all P rfl rfl))
  refine List.foldlRecOn (motive := P) _ _ rfl (fun s hs e _ => ?_)
  unfold initF
  exact ite_all P ((enqueue_processed ..).trans hs) hs

def Sound (g : Graph) (prm : Params) (src : Nat) (s : PState) : Prop :=
  ∀ l, TaggedLoc s l → Reach g prm src l

theorem Hot.reach {u : Nat} {l : Loc} (h : Hot (Reach g prm src) g u) (hc : Conseq g prm u l) :
    Reach g prm src l := by
  rcases h with ⟨hk, hr⟩ | ⟨hk, hr⟩ | ⟨hk, e, he, het, hr⟩
  · exact .stepSym hk hr hc
  · exact .stepState hk hr hc
  · exact .stepStmt hk he het hr hc

theorem step_sound {s : PState} (hs : Sound g prm src s) : Sound g prm src (step g prm s) := by
  cases hwl : s.wl with
  | nil => rw [step_nil hwl]; exact hs
  | cons u rest =>
    rw [step_cons hwl]
    split
    · rename_i hhot
      intro l hl
      rcases taggedLoc_fire.1 hl with hl | hc
      · exact hs l hl
      · exact ((nodeTag_iff.1 hhot).mono hs).reach hc
    · exact hs

theorem init_sound (g : Graph) (prm : Params) (src : Nat) : Sound g prm src (initState g src) := by
  intro l hl
  rcases taggedLoc_init.1 hl with ⟨hk, rfl | ⟨e, he, het, rfl⟩⟩ | ⟨hk, rfl⟩
  · exact .initSym hk
  · exact .initSymState hk he het
  · exact .initState hk

theorem propagate_sound (g : Graph) (prm : Params) (src : Nat) :
    Sound g prm src (propagate g prm src) :=
  run_inv (P := Sound g prm src) (fun _ => step_sound) _ (init_sound g prm src)

theorem mem_addLocs {T ls : List Loc} {l : Loc} : l ∈ addLocs T ls ↔ l ∈ T ∨ l ∈ ls := mem_foldl_addUnless

theorem satRound_sound {T : List Loc} (hT : ∀ l ∈ T, Reach g prm src l) :
    ∀ l ∈ satRound g prm T, Reach g prm src l := by
  refine List.foldlRecOn (motive := fun T => ∀ l ∈ T, Reach g prm src l) _ _ hT
    (fun acc hacc u _ => ?_)
  split
  · rename_i hh
    intro l hl
    rcases mem_addLocs.1 hl with hl | hl
    · exact hacc l hl
    · exact ((hot_iff.1 hh).mono hacc).reach (mem_conseqs.1 hl)
  · exact hacc

theorem satIter_sound (k : Nat) {T : List Loc} (hT : ∀ l ∈ T, Reach g prm src l) :
    ∀ l ∈ satIter g prm k T, Reach g prm src l := by
  induction k generalizing T with
  | zero => exact hT
  | succ k ih =>
    simp only [satIter]
    split
    · exact hT
    · exact ih (satRound_sound hT)

theorem reachSat_sound (g : Graph) (prm : Params) (src : Nat) :
    ∀ l ∈ reachSat g prm src, Reach g prm src l := by
  refine satIter_sound _ (fun l hl => ?_)
  unfold initLocs at hl
  split at hl
  · rename_i hk
    rcases mem_addLocs.1 hl with hl | hl
    · rw [List.mem_singleton.1 hl]; exact .initSym (beq_iff_eq.1 hk)
    · obtain ⟨e, he, rfl⟩ := List.mem_map.1 hl
      rw [List.mem_filter] at he
      exact .initSymState (beq_iff_eq.1 hk) he.1 (beq_iff_eq.1 he.2)
  · split at hl
    · rename_i hk
      rw [List.mem_singleton.1 hl]
      exact .initState (beq_iff_eq.1 hk)
    · exact absurd hl (by simp)

end LianVerif.Taint
