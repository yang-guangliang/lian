/-
C16 (DataModel): the repaired `DataModel` refines the scan specification.  A table is related to a
frame when the frame is its own and its caches are consistent (`Cached`); every call keeps the two
related and answers what the scan answers (`step_refines`).
-/
import LianVerif.Model.Table
import LianVerif.Spec.Scan
import LianVerif.Proofs.ScanWF

namespace LianVerif.Table
open LianVerif.Scan

theorem lookupValue_cons (k : Cell) (l : List Nat) (m : ValueIndex) (v : Cell) :
    lookupValue ((k, l) :: m) v = if k = v then l else lookupValue m v := by
  by_cases h : k = v <;> simp [lookupValue, h]

theorem lookupValue_bump (m : ValueIndex) (k v : Cell) (i : Nat) :
    lookupValue (bump m k i) v = if k = v then lookupValue m v ++ [i] else lookupValue m v := by
  induction m with
  | nil => simp only [bump, lookupValue_cons]; rfl
  | cons kv rest ih =>
    obtain ⟨k', l⟩ := kv
    simp only [bump]
    split
    · subst k'; simp only [lookupValue_cons]; split <;> rfl
    · rename_i hk
      simp only [lookupValue_cons, ih]
      by_cases h : k' = v
      · simp [h, h ▸ Ne.symm hk]
      · simp [h]

theorem lookupValue_indexFrom (col : List Cell) (v : Cell) (hv : v.isna = false) :
    ∀ (m : ValueIndex) (s : Nat),
      lookupValue (indexFrom m s col) v = lookupValue m v ++ scanFrom s col v := by
  induction col with
  | nil => intro m s; simp [indexFrom, scanFrom]
  | cons c cs ih =>
    intro m s
    simp only [indexFrom, scanFrom, ih]
    cases hc : c.isna
    · simp only [Bool.false_eq_true, if_false, lookupValue_bump]
      split <;> simp
    · have hne : c ≠ v := fun e => by rw [e, hv] at hc; cases hc
      simp only [if_true, hne, if_false]

/-- `_indexing_column` followed by `.get(value, set())` is a scan -/
theorem lookupValue_buildIndex (col : List Cell) (v : Cell) (hv : v.isna = false) :
    lookupValue (buildIndex col) v = scanFrom 0 col v :=
  lookupValue_indexFrom col v hv [] 0

def Consistent (t : T) : Prop :=
  t.schema = t.data.cols ∧
  (t.dirty = false → t.rows = some t.data.rows) ∧
  (∀ c m, (c, m) ∈ t.idx → ∃ col, t.data.column c = some col ∧ m = buildIndex col)

theorem Consistent.schema_eq {t : T} (h : Consistent t) : t.schema = t.data.cols := h.1

theorem Consistent.rows_clean {t : T} (h : Consistent t) (hd : t.dirty = false) :
    t.rows = some t.data.rows := h.2.1 hd

theorem Consistent.idx_built {t : T} (h : Consistent t) {c : String} {m : ValueIndex}
    (hm : (c, m) ∈ t.idx) : ∃ col, t.data.column c = some col ∧ m = buildIndex col := h.2.2 c m hm

theorem Consistent.of_flagged {t : T} (hs : t.schema = t.data.cols) (hd : t.dirty = true)
    (hi : t.idx = []) : Consistent t :=
  ⟨hs, fun h => Bool.noConfusion (hd.symm.trans h), fun _ _ h => by rw [hi] at h; cases h⟩

structure Cached (t : T) (f : Frame) : Prop where
  data_eq : t.data = f
  consistent : Consistent t

theorem Cached.schema_eq {t : T} {f : Frame} (h : Cached t f) : t.schema = f.cols :=
  h.data_eq ▸ h.consistent.schema_eq

/-- The repair: `set_refresh_flag` also drops the index (`clearIdxOnFlag`), so consistency holds
whatever `t` was.  Every mutating method ends here. -/
theorem cached_flag (t : T) : Cached (setRefreshFlag current t) t.data :=
  ⟨rfl, .of_flagged rfl rfl rfl⟩

theorem flag_data (v : Variant) (t : T) : (setRefreshFlag v t).data = t.data := rfl

theorem cached_loadT (f : Frame) : Cached (loadT current f) f := cached_flag _

theorem loadT_data (v : Variant) (f : Frame) : (loadT v f).data = f := rfl

theorem cached_resetIndex {t : T} {f : Frame} (h : Cached t f) :
    Cached { t with data := t.data.resetIndex } f.resetIndex := by
  obtain ⟨rfl, h⟩ := h; exact ⟨rfl, h⟩

theorem cached_resetChild {c : T} {g : Frame} (h : Cached c g) (reset : Bool) :
    Cached (resetChild c reset) (resetIf g reset) := by
  cases reset
  · exact h
  · exact cached_resetIndex h

theorem cached_construct (f : Frame) (reset : Bool) : Cached (construct f reset) (resetIf f reset) :=
  cached_resetChild (c := construct f false) ⟨rfl, .of_flagged rfl rfl rfl⟩ reset

theorem cached_sliceT {t : T} {f : Frame} (h : Cached t f) (a b : Int) :
    Cached (sliceT t a b) (f.ilocSlice a b) :=
  h.data_eq ▸ cached_construct _ false

theorem refreshRows_spec {t : T} {f : Frame} (h : Cached t f) :
    Cached (refreshRows t) f ∧ (refreshRows t).rows = some f.rows := by
  obtain ⟨rfl, h⟩ := h
  unfold refreshRows
  cases hd : t.dirty
  · exact ⟨⟨rfl, h⟩, h.rows_clean hd⟩
  · exact ⟨⟨rfl, h.schema_eq, fun _ => rfl, fun _ _ h => nomatch h⟩, rfl⟩

theorem contains_cols (f : Frame) (c : String) : f.cols.contains c = (f.column c).isSome := by
  unfold Frame.column Frame.colPos
  by_cases h : f.cols.idxOf c < f.cols.length
  · simp [h, List.idxOf_lt_length_iff.1 h]
  · simpa [h] using fun hm => h (List.idxOf_lt_length_iff.2 hm)

theorem mem_of_lookupCol {ix : Indexer} {c : String} {m : ValueIndex} (h : lookupCol ix c = some m) :
    (c, m) ∈ ix := by
  unfold lookupCol at h
  split at h
  · rename_i kv hf
    cases h
    have hp := List.find?_some hf
    simp only [decide_eq_true_eq] at hp
    exact hp ▸ List.mem_of_find?_eq_some hf
  · cases h

theorem queryIdx_spec {t : T} {f : Frame} (h : Cached t f) (c : String) (v : Cell) :
    ∃ t', queryIdx t c v = (t', Scan.queryIdx f c v) ∧ Cached t' f := by
  obtain ⟨rfl, h⟩ := h
  unfold queryIdx Scan.queryIdx
  split
  · exact ⟨t, rfl, rfl, h⟩
  · rename_i hv
    simp only [Bool.not_eq_true] at hv
    rw [show t.schema.contains c = _ from h.schema_eq ▸ contains_cols t.data c]
    cases hc : t.data.column c with
    | none => exact ⟨t, rfl, rfl, h⟩
    | some col =>
      simp only [Option.isSome_some, Bool.not_true, Bool.false_eq_true, if_false]
      cases hl : lookupCol t.idx c with
      | some m =>
        obtain ⟨col', hc', hm⟩ := h.idx_built (mem_of_lookupCol hl)
        cases hc.symm.trans hc'
        exact ⟨t, by simp only [hm, lookupValue_buildIndex col v hv], rfl, h⟩
      | none =>
        refine ⟨{ t with idx := t.idx ++ [(c, buildIndex col)] },
          by simp only [lookupValue_buildIndex col v hv], rfl, h.schema_eq, h.rows_clean, fun c' m' hm' => ?_⟩
        rcases List.mem_append.1 hm' with hm' | hm'
        · exact h.idx_built hm'
        · cases List.mem_singleton.1 hm'; exact ⟨col, hc, rfl⟩

theorem searchBlock_spec {t : T} {f : Frame} (h : Cached t f) (id : Cell) :
    ∃ t', searchBlock t id = (t', Scan.searchBlock f id) ∧ Cached t' f := by
  unfold searchBlock Scan.searchBlock
  split
  · exact ⟨t, rfl, h⟩
  · obtain ⟨t', e, h'⟩ := queryIdx_spec h "stmt_id" id
    rw [e]
    cases Scan.queryIdx f "stmt_id" id <;> exact ⟨t', rfl, h'⟩

theorem boundaryLoop_spec {f : Frame} (ids : List Cell) :
    ∀ (t : T) (acc : Int), Cached t f →
      ∃ t', boundaryLoop t acc ids = (t', Scan.boundaryLoop f acc ids) ∧ Cached t' f := by
  induction ids with
  | nil => intro t acc h; exact ⟨t, rfl, h⟩
  | cons id ids ih =>
    intro t acc h
    unfold boundaryLoop Scan.boundaryLoop
    split
    · exact ih t acc h
    · obtain ⟨t', e, h'⟩ := searchBlock_spec h id
      rw [e]
      rcases Scan.searchBlock f id with e | (_ | l)
      · exact ⟨t', rfl, h'⟩
      · exact ih t' acc h'
      · exact ih t' _ h'

theorem mkRow_spec {t : T} {f : Frame} (h : Cached t f) (i : Int) :
    mkRow t f.rows i = Scan.rowAt f i := by
  unfold mkRow Scan.rowAt
  rw [h.schema_eq, h.data_eq]; rfl

theorem mkRows_spec {t : T} {f : Frame} (h : Cached t f) (is : List Int) :
    mkRows t f.rows is = Scan.rowsAt f is := by
  induction is with
  | nil => rfl
  | cons i is ih => simp only [mkRows, Scan.rowsAt, mkRow_spec h, ih]; rfl

def CachedOpt : Option T → Option Frame → Prop
  | some c, some g => Cached c g
  | none, none => True
  | _, _ => False

theorem CachedOpt.cases {o : Option T} {g : Option Frame} (h : CachedOpt o g) :
    (o = none ∧ g = none) ∨ ∃ c f, o = some c ∧ g = some f ∧ Cached c f := by
  cases o <;> cases g
  · exact .inl ⟨rfl, rfl⟩
  · exact h.elim
  · exact h.elim
  · exact .inr ⟨_, _, rfl, rfl, h⟩

/-- results of one call on model and specification: table afterwards, answer, table created -/
def Sim (r : T × Out × Option T) (s : Frame × Out × Option Frame) : Prop :=
  Cached r.1 s.1 ∧ r.2.1 = s.2.1 ∧ CachedOpt r.2.2 s.2.2

theorem Sim.leaf {t : T} {f : Frame} (h : Cached t f) (out : Out) : Sim (t, out, none) (f, out, none) :=
  ⟨h, rfl, trivial⟩

theorem Sim.child {t c : T} {f g : Frame} (h : Cached t f) (hc : Cached c g) :
    Sim (t, .frame c.data, some c) (f, .frame g, some g) :=
  ⟨h, by rw [hc.data_eq], hc⟩

theorem Sim.mutate {t : T} {f : Frame} (h : Cached t f) (r : Except Err Frame) :
    Sim (mutate current t r) (mutated f r) := by
  cases r with
  | ok g => exact .leaf (cached_flag _) _
  | error e => exact .leaf h _

theorem Sim.guard {c : Prop} [Decidable c] {r r' : T × Out × Option T} {s s' : Frame × Out × Option Frame}
    (h : Sim r s) (h' : Sim r' s') : Sim (if c then r else r') (if c then s else s') := by
  by_cases hc : c
  · rw [if_pos hc, if_pos hc]; exact h
  · rw [if_neg hc, if_neg hc]; exact h'

theorem step_refines {t : T} {f : Frame} (h : Cached t f) (op : Op) :
    Sim (step current t op) (specStep f op) := by
  have hd := h.1
  subst hd
  cases op with dsimp only [step, specStep]
  | len | isEmpty | toDicts => exact .leaf h _
  | accessLoc l c =>
    cases t.data.labelPos l <;> cases t.data.colPos c <;> exact .leaf h _
  | column c => cases t.data.column c <;> exact .leaf h _
  | getRows =>
    obtain ⟨h', hr⟩ := refreshRows_spec h
    simp only [hr]; exact .leaf h' _
  | iter =>
    obtain ⟨h', hr⟩ := refreshRows_spec h
    simp only [hr, iterRows, mkRows_spec h']
    cases rowsAt t.data ((List.range t.data.rows.length).map Int.ofNat) <;> exact .leaf h' _
  | accessPos i =>
    obtain ⟨h', hr⟩ := refreshRows_spec h
    simp only [hr, mkRow_spec h']
    rcases rowAt t.data i with e | (_ | r) <;> exact .leaf h' _
  | accessList is =>
    obtain ⟨h', hr⟩ := refreshRows_spec h
    simp only [hr, mkRows_spec h']
    cases rowsAt t.data is <;> exact .leaf h' _
  | queryIdx c v =>
    obtain ⟨t', e, h'⟩ := queryIdx_spec h c v
    rw [e]
    cases Scan.queryIdx t.data c v <;> exact .leaf h' _
  | queryTable c v =>
    obtain ⟨t', e, h'⟩ := queryIdx_spec h c v
    rw [e]
    rcases Scan.queryIdx t.data c v with e | (_ | ⟨p, ps⟩)
    · exact .leaf h' _
    · exact .leaf h' _
    · simp only [h'.data_eq]
      cases t.data.ilocTake (p :: ps)
      · exact .leaf h' _
      · exact .child h' (cached_construct _ false)
  | queryFirst c v =>
    obtain ⟨t', e, h'⟩ := queryIdx_spec h c v
    rw [e]
    rcases Scan.queryIdx t.data c v with e | (_ | ⟨p, ps⟩)
    · exact .leaf h' _
    · exact .leaf h' _
    · simp only [h'.consistent.schema_eq, h'.data_eq]
      cases t.data.rows[p]? <;> exact .leaf h' _
  | searchBlock id =>
    obtain ⟨t', e, h'⟩ := searchBlock_spec h id
    rw [e]
    rcases Scan.searchBlock t.data id with e | (_ | l) <;> exact .leaf h' _
  | readBlock id r =>
    obtain ⟨t', e, h'⟩ := searchBlock_spec h id
    rw [e]
    -- error | unusable id | 0, 1, 2, more occurrences
    rcases Scan.searchBlock t.data id with e | (_ | (_ | ⟨p, _ | ⟨q, _ | ⟨x, xs⟩⟩⟩))
    · exact .leaf h' _
    · exact .leaf h' _
    · exact .leaf h' _
    · exact .leaf h' _
    · exact .child h' (cached_resetChild (cached_sliceT h' _ _) r)
    · exact .leaf h' _
  | readBlockWith id r =>
    obtain ⟨t', e, h'⟩ := searchBlock_spec h id
    rw [e]
    rcases Scan.searchBlock t.data id with e | (_ | (_ | ⟨p, _ | ⟨q, xs⟩⟩))
    · exact .leaf h' _
    · exact .leaf h' _
    · exact .leaf h' _
    · exact .leaf h' _
    · exact .child h' (cached_resetChild (cached_sliceT h' _ _) r)
  | boundary ids =>
    obtain ⟨t', e, h'⟩ := boundaryLoop_spec ids t (-1) h
    rw [e]
    cases Scan.boundaryLoop t.data (-1) ids <;> exact .leaf h' _
  | slowQueryEq c v oc r =>
    cases t.data.column c with
    | none => exact .leaf h _
    | some cs =>
      cases oc with
      | none => exact .child h (cached_construct _ r)
      | some o =>
        simp only
        cases (t.data.maskTake (cs.map (fun x => Frame.maskEq x v))).column o <;> exact .leaf h _
  | slowQueryIsin c vs r =>
    cases t.data.column c with
    | none => exact .leaf h _
    | some cs => exact .child h (cached_construct _ r)
  | slowQueryLabels ls r =>
    refine .guard (.leaf h _) ?_
    cases t.data.locTake ls with
    | none => exact .leaf h _
    | some g => exact .child h (cached_construct _ r)
  | slice a b => exact .child h (cached_sliceT h a b)
  | clone => exact .child h (cached_construct _ false)
  | modifyRow i r s =>
    rcases t.data.setIloc i r s with ⟨g, _ | e⟩ <;> exact .leaf (cached_flag _) _
  | modifyColumn _ _ | modifyColumnList _ _ => exact .mutate h _
  | modifyElement l c v r =>
    rcases t.data.setLoc l c v r with ⟨g, _ | e⟩ <;> exact .leaf (cached_flag _) _
  | renameColumn _ _ | append _ => exact .guard (.leaf h _) (.mutate h (.ok _))
  | removeRows c v =>
    cases t.data.filterNe c v with
    | none => exact .leaf h _
    | some g => exact .mutate h (.ok _)
  | resetIndex m =>
    cases m
    · exact .leaf (cached_resetIndex h) _
    · cases t.data.resetIndexMove with
      | ok g => exact .leaf (cached_flag _) _
      | error e => exact .leaf h _
  | fillna v => exact .leaf (cached_flag _) _
  | setColumns ns =>
    refine .guard (.leaf h _) ?_
    cases t.data.setColumns ns with
    | ok g => exact .leaf (cached_flag _) _
    | error e => exact .leaf h _
  | saveLoad ok =>
    cases ok
    · exact .leaf (cached_resetIndex h) _
    · exact .child (cached_resetIndex h) (cached_loadT _)

theorem step_out {t : T} {f : Frame} (h : Cached t f) (op : Op) :
    (step current t op).2.1 = (specStep f op).2.1 := (step_refines h op).2.1

def WSim (w : World) (s : SWorld) : Prop :=
  Cached w.cur s.cur ∧ CachedOpt w.other s.other

theorem stepW_refines {w : World} {s : SWorld} (h : WSim w s) (op : WOp) :
    (stepW current w op).2 = (specStepW s op).2 ∧ WSim (stepW current w op).1 (specStepW s op).1 := by
  obtain ⟨cur, other⟩ := w
  obtain ⟨scur, sother⟩ := s
  obtain ⟨hc, ho⟩ := h
  cases op with
  | on op enter =>
    have hs := step_refines hc op
    dsimp only [stepW, specStepW]
    generalize step current cur op = r at hs ⊢
    generalize specStep scur op = q at hs ⊢
    obtain ⟨t', out, ch⟩ := r
    obtain ⟨f', out', ch'⟩ := q
    obtain ⟨h1, h2, h3⟩ := hs
    cases h2
    obtain ⟨rfl, rfl⟩ | ⟨c, g, rfl, rfl, h3⟩ := h3.cases
    · exact ⟨rfl, h1, ho⟩
    · cases enter
      · exact ⟨rfl, h1, ho⟩
      · exact ⟨rfl, h3, h1⟩
  | swap =>
    obtain ⟨rfl, rfl⟩ | ⟨o, g, rfl, rfl, ho⟩ := ho.cases
    · exact ⟨rfl, hc, trivial⟩
    · exact ⟨rfl, ho, hc⟩
  | appendOther =>
    obtain ⟨rfl, rfl⟩ | ⟨o, g, rfl, rfl, hg⟩ := ho.cases
    · exact ⟨rfl, hc, trivial⟩
    · obtain ⟨rfl, hk⟩ := hg
      have hs := step_refines hc (.append o.data)
      dsimp only [stepW, specStepW]
      generalize step current cur (.append o.data) = r at hs ⊢
      generalize specStep scur (.append o.data) = q at hs ⊢
      exact ⟨hs.2.1, hs.1, rfl, hk⟩

theorem run_refines (ops : List WOp) :
    ∀ (w : World) (s : SWorld), WSim w s →
      (run current w ops).2 = (specRun s ops).2 ∧ WSim (run current w ops).1 (specRun s ops).1 := by
  induction ops with
  | nil => intro w s h; exact ⟨rfl, h⟩
  | cons op ops ih =>
    intro w s h
    obtain ⟨h1, h2⟩ := stepW_refines h op
    obtain ⟨i1, i2⟩ := ih _ _ h2
    simp only [run, specRun]
    exact ⟨by rw [i1, h1, h2.1.data_eq], i2⟩

theorem init_sim (c : Ctor) : WSim (init current c) (specInit c) := by
  cases c with
  | rows cs rs reset => exact ⟨cached_construct _ reset, trivial⟩
  | dicts ds => exact ⟨cached_construct _ false, trivial⟩
  | frame f reset => exact ⟨cached_construct f reset, trivial⟩
  | load f => exact ⟨cached_loadT f, trivial⟩

/-- the form in which the one-`step` facts below are applied to reachable states -/
theorem reachable_cached (c : Ctor) (ops : List WOp) :
    Cached (run current (init current c) ops).1.cur (run current (init current c) ops).1.cur.data :=
  ⟨rfl, (run_refines ops _ _ (init_sim c)).2.1.consistent⟩

theorem reachable_wf (c : Ctor) (hc : CtorWF c) (ops : List WOp) :
    (run current (init current c) ops).1.cur.data.WF :=
  (run_refines ops _ _ (init_sim c)).2.1.data_eq ▸ (specRun_wf ops _ (specInit_wf hc)).1.1

theorem positions_valid {t : T} {f : Frame} (h : Cached t f) (col : String) (v : Cell) :
    (∀ l, (step current t (.queryIdx col v)).2.1 = .positions l → ∀ p ∈ l, p < f.rows.length) ∧
    (∀ l, (step current t (.searchBlock v)).2.1 = .positions l → ∀ p ∈ l, p < f.rows.length) := by
  rw [step_out h, step_out h]
  dsimp only [specStep]
  constructor
  · intro l hl
    cases hq : Scan.queryIdx f col v <;> rw [hq] at hl <;> cases hl
    exact queryIdx_lt hq
  · intro l hl
    rcases hs : Scan.searchBlock f v with e | (_ | l') <;> rw [hs] at hl <;> cases hl
    exact searchBlock_lt hs

theorem query_never_out_of_range {t : T} {f : Frame} (h : Cached t f) (col : String) (v : Cell) :
    (step current t (.queryTable col v)).2.1 ≠ .err .index ∧
    (step current t (.queryFirst col v)).2.1 ≠ .err .index := by
  rw [step_out h, step_out h]
  dsimp only [specStep]
  rcases queryIdx_cases f col v with e | ⟨_ | ⟨p, ps⟩, e, hl⟩ <;> rw [e]
  · exact ⟨nofun, nofun⟩
  · exact ⟨nofun, nofun⟩
  · obtain ⟨g, hg⟩ := Frame.ilocTake_isSome hl
    simp only [hg, List.getElem?_eq_getElem (hl p List.mem_cons_self)]
    exact ⟨nofun, nofun⟩

theorem rows_have_labels {t : T} {f : Frame} (h : Cached t f)
    (hw : f.labels.length = f.rows.length) (i : Int) (is : List Int) :
    (∀ e, (step current t (.accessPos i)).2.1 ≠ .err e) ∧
    (∀ e, (step current t (.accessList is)).2.1 ≠ .err e) ∧
    (∀ e, (step current t .iter).2.1 ≠ .err e) := by
  rw [step_out h, step_out h, step_out h]
  dsimp only [specStep]
  obtain ⟨r, hr⟩ := rowAt_ok hw i
  obtain ⟨l, hl⟩ := rowsAt_ok hw is
  obtain ⟨l', hl'⟩ := rowsAt_ok hw ((List.range f.rows.length).map Int.ofNat)
  rw [hr, hl, hl']
  refine ⟨?_, fun _ h => (nomatch h), fun _ h => nomatch h⟩
  cases r <;> exact fun _ h => nomatch h

theorem readBlock_two_markers {t : T} {f : Frame} (h : Cached t f) {id : Cell} {col : List Cell}
    (hid : id.isna = false) (hcol : f.column "stmt_id" = some col) (reset : Bool) :
    (step current t (.readBlock id reset)).2.1 =
      (match scanFrom 0 col id with
       | [p, q] => .frame (resetIf { f with labels := (f.labels.drop (p + 1)).take (q - (p + 1)),
                                            rows := (f.rows.drop (p + 1)).take (q - (p + 1)) } reset)
       | _ => .err .quit) := by
  rw [step_out h]
  have hq : Scan.queryIdx f "stmt_id" id = .ok (scanFrom 0 col id) := by
    simp only [Scan.queryIdx, hid, hcol, Bool.false_eq_true, if_false]
  have hlt := queryIdx_lt hq
  dsimp only [specStep]; simp only [Scan.searchBlock, hid, Bool.false_eq_true, if_false, hq]
  rcases hs : scanFrom 0 col id with _ | ⟨p, _ | ⟨q, _ | ⟨x, xs⟩⟩⟩
  · rfl
  · rfl
  · rw [hs] at hlt
    have hp := hlt p (by simp)
    have hq' := hlt q (by simp)
    simp only [Frame.ilocSlice, Frame.nrows]
    rw [show Int.ofNat p + 1 = Int.ofNat (p + 1) from rfl,
      Frame.clampBound_ofNat (Nat.succ_le_of_lt hp),
      Frame.clampBound_ofNat (Nat.le_of_lt hq')]
  · rfl

end LianVerif.Table
