/-
C12: what the three actions of an edit (`relocate`, `rename`, `renumber`) do to the projection
`toScopeRow` that the scope / resolver models read, and the "rename ONE name to a fresh one" renaming.
-/
import LianVerif.Model.Meta
import LianVerif.Proofs.Resolver

namespace LianVerif.Meta
open LianVerif.Scopes LianVerif.Resolver

theorem toScopeRow_relocate (m : Nat → Nat) (d : Bool) (r : MRow) : toScopeRow (relocate m d r) = toScopeRow r := rfl

theorem toScopeRow_eraseLoc (r : MRow) : toScopeRow (eraseLoc r) = toScopeRow r := rfl

theorem toScopeRows_congr {f : MRow → MRow} (hf : ∀ r, toScopeRow (f r) = toScopeRow r) (rows : List MRow) :
    (rows.map f).map toScopeRow = rows.map toScopeRow := by
  rw [List.map_map]
  exact List.map_congr_left fun r _ => hf r

theorem refOf_renumber (ρ : Nat → Nat) (r : MRow) (k : String) : refOf (renumber ρ r) k = (refOf r k).map ρ := by
  unfold refOf renumber
  rw [List.find?_map, Option.map_map, Option.map_map]
  rfl

theorem toScopeRow_renumber (ρ : Nat → Nat) (r : MRow) : toScopeRow (renumber ρ r) = mapScopeRow ρ (toScopeRow r) := by
  unfold toScopeRow mapScopeRow
  simp only [refOf_renumber]
  rfl

theorem nameOf_rename (σ : String → String) (hσ : ∀ s, (σ s).isEmpty = s.isEmpty) (r : MRow) (k : String) :
    nameOf (rename σ r) k = (nameOf r k).map σ := by
  unfold nameOf rename
  rw [List.find?_map]
  show (match (r.names.find? (fun kv => kv.1 == k)).map (fun kv => (kv.1, kv.2.map σ)) with
      | some (_, n :: _) => if n.isEmpty then none else some n
      | _ => none) = _
  generalize r.names.find? (fun kv => kv.1 == k) = o
  rcases o with _ | ⟨key, _ | ⟨n, ns⟩⟩
  · rfl
  · rfl
  · simp only [Option.map_some, List.map_cons, hσ]
    split <;> rfl

theorem toScopeRow_rename (σ : String → String) (hσ : ∀ s, (σ s).isEmpty = s.isEmpty) (r : MRow) :
    toScopeRow (rename σ r) = Row.map σ (toScopeRow r) := by
  unfold toScopeRow Row.map
  simp only [nameOf_rename σ hσ]
  rfl

theorem toScopeRows_editRows (e : Edit) (rows : List MRow) :
    (editRows e rows).map toScopeRow =
      ((rows.map fun r => if e.σOn r.id then rename e.σ r else r).map toScopeRow).map (mapScopeRow e.ρ) := by
  rw [editRows, List.map_map, List.map_map, List.map_map]
  exact List.map_congr_left fun r _ => by
    simp only [Function.comp, editRow, toScopeRow_relocate, toScopeRow_renumber]

theorem toScopeRows_rename (σ : String → String) (hσ : ∀ s, (σ s).isEmpty = s.isEmpty) (rows : List MRow) :
    (rows.map (rename σ)).map toScopeRow = (rows.map toScopeRow).map (Row.map σ) := by
  rw [List.map_map, List.map_map]
  exact List.map_congr_left fun r _ => toScopeRow_rename σ hσ r

section Swap
variable {ν : Type} [DecidableEq ν]

def swapName (a b : ν) (x : ν) : ν := if x = a then b else if x = b then a else x

/-- what the edit does: `a` becomes `b`, nothing else changes -/
def renOne (a b : ν) (x : ν) : ν := if x = a then b else x

theorem swapName_swapName (a b x : ν) : swapName a b (swapName a b x) = x := by
  unfold swapName
  by_cases hxa : x = a
  · by_cases hba : b = a <;> simp [hxa, hba]
  · by_cases hxb : x = b <;> simp [hxa, hxb]

theorem swapName_inj (a b : ν) : Function.Injective (swapName a b) := fun x y h => by
  rw [← swapName_swapName a b x, h, swapName_swapName]

theorem swapName_eq_renOne {a b x : ν} (hx : x ≠ b) : swapName a b x = renOne a b x := by
  unfold swapName renOne
  by_cases hxa : x = a
  · rw [if_pos hxa, if_pos hxa]
  · rw [if_neg hxa, if_neg hxa, if_neg hx]

def FreshIn (b : ν) (rows : List (Row ν)) : Prop := ∀ r ∈ rows, r.name ≠ some b ∧ r.alias ≠ some b

theorem rowsMap_swap_eq_renOne {a b : ν} {rows : List (Row ν)} (h : FreshIn b rows) :
    rows.map (Row.map (swapName a b)) = rows.map (Row.map (renOne a b)) :=
  List.map_congr_left fun r hr => by
    have hopt : ∀ o : Option ν, o ≠ some b → o.map (swapName a b) = o.map (renOne a b) := fun o ho => by
      cases o with
      | none => rfl
      | some x => exact congrArg some (swapName_eq_renOne fun e => ho (e ▸ rfl))
    simp only [Row.map, hopt _ (h r hr).1, hopt _ (h r hr).2]

/-- replacing `a` by a fresh `b` acts on the rows as the transposition of `a` and `b`, which is
injective.  The segment hypothesis is asked on the names of the rows only: asked of every string it
fails for `lastSegStr` at a dotted name that ends in `a`. -/
theorem bindRows_renOne (a b : ν) (lastSeg : ν → Option ν) (t : OpTable) (rows : List (Row ν))
    (hseg : ∀ r ∈ rows, ∀ x, r.name = some x → lastSeg (swapName a b x) = (lastSeg x).map (swapName a b))
    (hfresh : FreshIn b rows) (stmt : Nat) {n : ν} (hn : n ≠ b) (mode : Mode) :
    bindRows lastSeg t (rows.map (Row.map (renOne a b))) stmt (renOne a b n) mode =
      (bindRows lastSeg t rows stmt n mode).map (Decl.map (swapName a b)) := by
  rw [← rowsMap_swap_eq_renOne hfresh, ← swapName_eq_renOne hn]
  exact bindRows_map (swapName a b) (swapName_inj a b) lastSeg lastSeg t rows hseg stmt n mode

end Swap

end LianVerif.Meta
