/-
Association lists read as Python dicts: `alookup` after `aset`/`aerase`/`++`/`map` by equations, the
key lists with their `Nodup`.  On top of them the LRU cache refines a finite map (`LInv`): every
cached binding is the map's current one, so a hit answers as the map does and a miss says nothing.
-/
import LianVerif.Model.Lru
import LianVerif.Spec.LoaderSpec
import LianVerif.Proofs.ListAux

namespace LianVerif.Lru

variable {K V : Type} [DecidableEq K]

@[simp] theorem alookup_nil (k : K) : alookup k ([] : List (K × V)) = none := rfl

theorem alookup_cons (k : K) (p : K × V) (l : List (K × V)) :
    alookup k (p :: l) = if p.1 = k then some p.2 else alookup k l := rfl

theorem aset_cons (k : K) (v : V) (p : K × V) (l : List (K × V)) :
    aset k v (p :: l) = if p.1 = k then (k, v) :: l else p :: aset k v l := rfl

theorem aerase_cons (k : K) (p : K × V) (l : List (K × V)) :
    aerase k (p :: l) = if p.1 = k then aerase k l else p :: aerase k l := by
  by_cases e : p.1 = k <;> simp [aerase, e]

omit [DecidableEq K] in
theorem akeys_cons (p : K × V) (l : List (K × V)) : akeys (p :: l) = p.1 :: akeys l := rfl

theorem alookup_mem {k : K} {v : V} {l : List (K × V)} (h : alookup k l = some v) : (k, v) ∈ l := by
  induction l with
  | nil => cases h
  | cons p l ih =>
    rw [alookup_cons] at h
    split at h
    · rename_i e; cases h; exact e ▸ List.mem_cons_self
    · exact List.mem_cons_of_mem _ (ih h)

theorem alookup_none_iff {k : K} {l : List (K × V)} : alookup k l = none ↔ k ∉ akeys l := by
  induction l with
  | nil => simp [akeys]
  | cons p l ih =>
    rw [alookup_cons, akeys_cons, List.mem_cons, not_or, ← ih]
    by_cases e : p.1 = k
    · simp [e]
    · simp [e, Ne.symm e]

theorem alookup_isSome_iff {k : K} {l : List (K × V)} : (alookup k l).isSome ↔ k ∈ akeys l := by
  rw [← Decidable.not_iff_not, ← alookup_none_iff]
  cases alookup k l <;> simp

theorem alookup_aset (k k' : K) (v : V) (l : List (K × V)) :
    alookup k' (aset k v l) = if k' = k then some v else alookup k' l := by
  induction l with
  | nil => simp [aset, alookup_cons, eq_comm]
  | cons p l ih =>
    rw [aset_cons]
    by_cases e : p.1 = k
    · rw [if_pos e, alookup_cons, alookup_cons, e]
      by_cases e' : k = k'
      · simp [e']
      · simp [e', Ne.symm e']
    · rw [if_neg e, alookup_cons, alookup_cons, ih]
      by_cases e' : p.1 = k'
      · rw [if_pos e', if_pos e', if_neg (e' ▸ e)]
      · rw [if_neg e', if_neg e']

theorem alookup_aerase (k k' : K) (l : List (K × V)) :
    alookup k' (aerase k l) = if k' = k then none else alookup k' l := by
  induction l with
  | nil => simp [aerase]
  | cons p l ih =>
    rw [aerase_cons, alookup_cons]
    by_cases e : p.1 = k
    · rw [if_pos e, ih]
      by_cases e' : k' = k
      · rw [if_pos e', if_pos e']
      · rw [if_neg e', if_neg e', if_neg fun h => e' (h.symm.trans e)]
    · rw [if_neg e, alookup_cons, ih]
      by_cases e' : p.1 = k'
      · rw [if_pos e', if_pos e', if_neg (e' ▸ e)]
      · rw [if_neg e', if_neg e']

theorem alookup_append (k : K) (l₁ l₂ : List (K × V)) :
    alookup k (l₁ ++ l₂) = (alookup k l₁).or (alookup k l₂) := by
  induction l₁ with
  | nil => rfl
  | cons p l ih => rw [List.cons_append, alookup_cons, alookup_cons, ih]; split <;> rfl

theorem alookup_map {W : Type} (g : K × V → K × W) (hg : ∀ p, (g p).1 = p.1) (k : K) (l : List (K × V)) :
    alookup k (l.map g) = (alookup k l).map (fun v => (g (k, v)).2) := by
  induction l with
  | nil => rfl
  | cons p l ih =>
    rw [List.map_cons, alookup_cons, alookup_cons, hg, ih]
    split
    · rename_i e; rw [← e]; rfl
    · rfl

omit [DecidableEq K] in
theorem akeys_map {W : Type} (g : K × V → K × W) (hg : ∀ p, (g p).1 = p.1) (l : List (K × V)) :
    akeys (l.map g) = akeys l := by
  simp [akeys, hg]

theorem aset_of_not_mem {k : K} {l : List (K × V)} (h : k ∉ akeys l) (v : V) : aset k v l = l ++ [(k, v)] := by
  induction l with
  | nil => rfl
  | cons p l ih =>
    rw [akeys_cons, List.mem_cons, not_or] at h
    rw [aset_cons, if_neg (Ne.symm h.1), ih h.2, List.cons_append]

theorem aerase_of_not_mem {k : K} {l : List (K × V)} (h : k ∉ akeys l) : aerase k l = l := by
  induction l with
  | nil => rfl
  | cons p l ih =>
    rw [akeys_cons, List.mem_cons, not_or] at h
    rw [aerase_cons, if_neg (Ne.symm h.1), ih h.2]

theorem akeys_aset (k : K) (v : V) (l : List (K × V)) :
    akeys (aset k v l) = if k ∈ akeys l then akeys l else akeys l ++ [k] := by
  induction l with
  | nil => rfl
  | cons p l ih =>
    by_cases e : p.1 = k
    · simp [aset_cons, akeys_cons, e]
    · simp only [aset_cons, if_neg e, akeys_cons, ih, List.mem_cons, Ne.symm e, false_or]
      split <;> rfl

theorem nodup_aset {k : K} {v : V} {l : List (K × V)} (h : (akeys l).Nodup) : (akeys (aset k v l)).Nodup := by
  rw [akeys_aset]
  split
  · exact h
  · exact nodup_concat h ‹_›

theorem mem_aerase {k : K} {p : K × V} {l : List (K × V)} : p ∈ aerase k l ↔ p ∈ l ∧ p.1 ≠ k := by
  simp [aerase, List.mem_filter]

theorem akeys_aerase (k : K) (l : List (K × V)) : akeys (aerase k l) = (akeys l).filter (fun x => decide (x ≠ k)) := by
  unfold akeys aerase
  rw [List.filter_map]
  rfl

theorem nodup_aerase {k : K} {l : List (K × V)} (h : (akeys l).Nodup) : (akeys (aerase k l)).Nodup := by
  rw [akeys_aerase]; exact h.filter _

theorem mem_aerase_append {k : K} {v : V} {p : K × V} {l : List (K × V)} :
    p ∈ aerase k l ++ [(k, v)] ↔ (p ∈ l ∧ p.1 ≠ k) ∨ p = (k, v) := by
  rw [List.mem_append, List.mem_singleton, mem_aerase]

theorem nodup_aerase_append {k : K} {v : V} {l : List (K × V)} (h : (akeys l).Nodup) :
    (akeys (aerase k l ++ [(k, v)])).Nodup := by
  rw [← aset_of_not_mem (l := aerase k l)]
  · exact nodup_aset (nodup_aerase h)
  · rw [akeys_aerase]; simp

theorem length_aerase_lt {k : K} {v : V} {l : List (K × V)} (h : alookup k l = some v) :
    (aerase k l).length < l.length :=
  List.length_filter_lt_length_iff_exists.2 ⟨(k, v), alookup_mem h, by simp⟩

def rowsSum {R : Type} (l : List (K × List R)) : Nat := (l.map (fun p => p.2.length)).sum

set_option linter.unusedSectionVars false in
@[simp] theorem rowsSum_nil {R : Type} : rowsSum ([] : List (K × List R)) = 0 := rfl

section rows
variable {R : Type}

omit [DecidableEq K] in
theorem rowsSum_cons (p : K × List R) (l : List (K × List R)) :
    rowsSum (p :: l) = p.2.length + rowsSum l := by simp [rowsSum]

/-- `Loader.activeRows` as a function of the list -/
def oldLen (k : K) (l : List (K × List R)) : Nat :=
  match alookup k l with
  | some old => old.length
  | none => 0

theorem oldLen_cons (k : K) (p : K × List R) (l : List (K × List R)) :
    oldLen k (p :: l) = if p.1 = k then p.2.length else oldLen k l := by
  unfold oldLen
  rw [alookup_cons]
  by_cases e : p.1 = k <;> simp [e]

theorem rowsSum_aset (k : K) (rows : List R) (l : List (K × List R)) :
    rowsSum (aset k rows l) + oldLen k l = rowsSum l + rows.length := by
  induction l with
  | nil => simp [aset, rowsSum, oldLen]
  | cons p l ih =>
    rw [aset_cons, oldLen_cons]
    split
    · simp only [rowsSum_cons]; omega
    · simp only [rowsSum_cons, Nat.add_assoc, ih]

/-- `aerase` drops every binding of `k`, `oldLen` counts the first: equal when keys are unique -/
theorem rowsSum_aerase {k : K} {l : List (K × List R)} (h : (akeys l).Nodup) :
    rowsSum (aerase k l) + oldLen k l = rowsSum l := by
  induction l with
  | nil => rfl
  | cons p l ih =>
    obtain ⟨hp, hl⟩ := List.nodup_cons.1 h
    rw [aerase_cons, oldLen_cons, rowsSum_cons]
    split
    · rename_i e
      rw [aerase_of_not_mem (e ▸ hp), Nat.add_comm]
    · rw [rowsSum_cons, Nat.add_assoc, ih hl]

theorem oldLen_le_rowsSum (k : K) (l : List (K × List R)) : oldLen k l ≤ rowsSum l := by
  induction l with
  | nil => exact Nat.le_refl 0
  | cons p l ih =>
    rw [oldLen_cons, rowsSum_cons]; split
    · exact Nat.le_add_right _ _
    · exact Nat.le_add_left_of_le ih

omit [DecidableEq K] in
theorem any_nonempty_of_rowsSum_pos {l : List (K × List R)} (h : 0 < rowsSum l) :
    l.any (fun p => !p.2.isEmpty) = true := by
  induction l with
  | nil => cases h
  | cons p l ih =>
    rw [rowsSum_cons] at h
    rw [List.any_cons, Bool.or_eq_true]
    by_cases hp : p.2 = []
    · exact Or.inr (ih (by simpa [hp] using h))
    · exact Or.inl (by simpa using hp)

theorem rows_nil_of_rowsSum_zero {l : List (K × List R)} (h : rowsSum l = 0) {k : K} {rows : List R}
    (hk : alookup k l = some rows) : rows = [] := by
  induction l with
  | nil => cases hk
  | cons p l ih =>
    rw [rowsSum_cons] at h
    rw [alookup_cons] at hk
    split at hk
    · cases hk; exact List.eq_nil_of_length_eq_zero (Nat.eq_zero_of_add_eq_zero_right h)
    · exact ih (Nat.eq_zero_of_add_eq_zero_left h) hk

end rows

theorem Lru.lookup_mem {c : Lru K V} {k : K} {v : V} (h : c.lookup k = some v) : (k, v) ∈ c.items := alookup_mem h

theorem Lru.contain_iff {c : Lru K V} {k : K} : c.contain k = true ↔ ∃ v, c.lookup k = some v :=
  Option.isSome_iff_exists

theorem Lru.get_of_lookup {c : Lru K V} {k : K} {v : V} (h : c.lookup k = some v) :
    c.get k = ({ c with items := aerase k c.items ++ [(k, v)] }, some v) := by
  unfold Lru.get; rw [h]

theorem Lru.get_of_lookup_none {c : Lru K V} {k : K} (h : c.lookup k = none) : c.get k = (c, none) := by
  unfold Lru.get; rw [h]

theorem Lru.get_snd (c : Lru K V) (k : K) : (c.get k).2 = c.lookup k := by
  cases h : c.lookup k with
  | none => rw [Lru.get_of_lookup_none h]
  | some v => rw [Lru.get_of_lookup h]

theorem Lru.mem_get {c : Lru K V} {k : K} {p : K × V} (h : p ∈ (c.get k).1.items) : p ∈ c.items := by
  cases hl : c.lookup k with
  | none => rwa [Lru.get_of_lookup_none hl] at h
  | some v =>
    rw [Lru.get_of_lookup hl] at h
    rcases mem_aerase_append.1 h with h | rfl
    · exact h.1
    · exact alookup_mem hl

theorem Lru.put_sublist (c : Lru K V) (k : K) (v : V) : (c.put k v).items.Sublist (aerase k c.items ++ [(k, v)]) := by
  unfold Lru.put
  dsimp only
  split
  · exact List.drop_sublist _ _
  · exact List.Sublist.refl _

theorem Lru.mem_put {c : Lru K V} {k : K} {v : V} {p : K × V} (h : p ∈ (c.put k v).items) :
    p = (k, v) ∨ (p ∈ c.items ∧ p.1 ≠ k) :=
  (mem_aerase_append.1 ((Lru.put_sublist c k v).subset h)).symm

theorem Lru.forall_mem_put {c : Lru K V} {k : K} {v : V} {P : K × V → Prop} (hkv : P (k, v))
    (hc : ∀ p ∈ c.items, P p) : ∀ p ∈ (c.put k v).items, P p := fun p hp => by
  rcases Lru.mem_put hp with rfl | ⟨hp', _⟩
  · exact hkv
  · exact hc p hp'

theorem Lru.mem_remove {c : Lru K V} {k : K} {p : K × V} : p ∈ (c.remove k).items ↔ p ∈ c.items ∧ p.1 ≠ k :=
  mem_aerase

theorem step_cap (c : Lru K V) (op : Op K V) : (step c op).1.cap = c.cap := by
  unfold step
  cases op with
  | get k => simp only [Lru.get]; split <;> rfl
  | put k v => simp only [Lru.put]; split <;> rfl
  | contain k => rfl
  | remove k => rfl

theorem run_cap (ops : List (Op K V)) : ∀ c : Lru K V, (run c ops).1.cap = c.cap := by
  induction ops with
  | nil => intro c; rfl
  | cons op ops ih => intro c; exact (ih _).trans (step_cap c op)

section lruinv

/-- The cache `c` against the map `m` of latest `put`s: `fresh` says a cached binding is the map's
current one (nothing stale survives a `put` or `remove`); the converse fails by eviction. -/
structure LInv (c : Lru K V) (m : K → Option V) : Prop where
  fresh : ∀ p ∈ c.items, m p.1 = some p.2
  size : c.items.length ≤ c.cap
  nodup : (akeys c.items).Nodup

omit [DecidableEq K] in
theorem linv_empty (cap : Nat) : LInv (Lru.empty cap : Lru K V) (fun _ => none) :=
  ⟨fun _ h => (nomatch h), Nat.zero_le _, List.nodup_nil⟩

theorem lru_step_ok {c : Lru K V} {m : K → Option V} (h : LInv c m) (op : Op K V) :
    LInv (step c op).1 (LruSpec.specStep m op) ∧ LruSpec.OutOk m op (step c op).2 := by
  have hle : ∀ k, (aerase k c.items).length ≤ c.items.length := fun k => List.length_filter_le _ _
  have hsz := h.size
  unfold step
  cases op with
  | get k =>
    cases hl : c.lookup k with
    | none => simp only [Lru.get_of_lookup_none hl]; exact ⟨h, Or.inl rfl⟩
    | some v =>
      have hm := h.fresh _ (Lru.lookup_mem hl)
      simp only [Lru.get_of_lookup hl]
      refine ⟨⟨fun p hp => ?_, ?_, nodup_aerase_append h.nodup⟩, Or.inr hm.symm⟩
      · rcases mem_aerase_append.1 hp with hp | rfl
        · exact h.fresh p hp.1
        · exact hm
      · simp only [List.length_append, List.length_singleton]
        exact Nat.le_trans (length_aerase_lt hl) hsz
  | contain k =>
    refine ⟨h, fun hc => ?_⟩
    obtain ⟨v, hv⟩ := Lru.contain_iff.1 hc
    exact (h.fresh _ (Lru.lookup_mem hv)) ▸ rfl
  | put k v =>
    refine ⟨⟨fun p (hp : p ∈ (c.put k v).items) => ?_, ?_,
      (nodup_aerase_append h.nodup).sublist ((Lru.put_sublist c k v).map _)⟩, trivial⟩
    · rcases Lru.mem_put hp with rfl | ⟨hp', hne⟩
      · exact if_pos rfl
      · exact (if_neg hne).trans (h.fresh p hp')
    · simp only [Lru.put]
      split
      · simp only [List.length_drop, List.length_append, List.length_singleton, Nat.add_sub_cancel]
        exact Nat.le_trans (hle k) hsz
      · rename_i hgt; exact Nat.le_of_not_gt hgt
  | remove k =>
    refine ⟨⟨fun p hp => ?_, Nat.le_trans (hle k) hsz, nodup_aerase h.nodup⟩, trivial⟩
    obtain ⟨hp', hne⟩ := Lru.mem_remove.1 hp
    exact (if_neg hne).trans (h.fresh p hp')

theorem lru_run_ok (ops : List (Op K V)) : ∀ (c : Lru K V) (m : K → Option V), LInv c m →
    LInv (run c ops).1 (LruSpec.specRun m ops) ∧ LruSpec.RunOk m ops (run c ops).2 := by
  induction ops with
  | nil => intro c m h; exact ⟨h, trivial⟩
  | cons op ops ih =>
    intro c m h
    obtain ⟨h1, o1⟩ := lru_step_ok h op
    exact (ih _ _ h1).imp_right fun r => ⟨o1, r⟩

end lruinv

end LianVerif.Lru
