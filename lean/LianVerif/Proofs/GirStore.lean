/-
The variable store of the GIR reference semantics, a single write as a relation between states
(`State.Upd`), and the assignment steps of `stepSimple` as such writes.
-/
import LianVerif.Gir.Sem

namespace LianVerif.Gir

theorem alGet_alSet_eq {β : Type} (l : List (String × β)) (k : String) (v : β) :
    alGet (alSet l k v) k = some v := by
  induction l with
  | nil => simp [alSet, alGet]
  | cons p rest ih => by_cases h : p.1 = k <;> simp [alSet, alGet, h, ih]

theorem alGet_alSet_ne {β : Type} (l : List (String × β)) (k x : String) (v : β) (h : x ≠ k) :
    alGet (alSet l k v) x = alGet l x := by
  induction l with
  | nil => simp [alSet, alGet, Ne.symm h]
  | cons p rest ih =>
    by_cases h1 : p.1 = k
    · simp [alSet, alGet, h1, Ne.symm h]
    · simp [alSet, alGet, h1, ih]

theorem alGet_append_ne {β : Type} (l : List (String × β)) (k x : String) (v : β) (h : x ≠ k) :
    alGet (l ++ [(k, v)]) x = alGet l x := by
  induction l with
  | nil => simp [alGet, Ne.symm h]
  | cons p rest ih => simp [alGet, ih]

theorem alHas_eq_isSome {β : Type} (l : List (String × β)) (x : String) :
    alHas l x = (alGet l x).isSome := by
  induction l with
  | nil => rfl
  | cons p rest ih => by_cases h : p.1 = x <;> simp [alHas, alGet, h, ih]

theorem alHas_alSet_eq {β : Type} (l : List (String × β)) (k : String) (v : β) :
    alHas (alSet l k v) k = true := by
  rw [alHas_eq_isSome, alGet_alSet_eq]; rfl

theorem alHas_alSet_ne {β : Type} (l : List (String × β)) (k x : String) (v : β) (h : x ≠ k) :
    alHas (alSet l k v) x = alHas l x := by
  rw [alHas_eq_isSome, alHas_eq_isSome, alGet_alSet_ne l k x v h]

theorem alHas_append_ne {β : Type} (l : List (String × β)) (k x : String) (v : β) (h : x ≠ k) :
    alHas (l ++ [(k, v)]) x = alHas l x := by
  rw [alHas_eq_isSome, alHas_eq_isSome, alGet_append_ne l k x v h]

/-- `t` is resolved like a plain local: `resolve` is `findDecl` (`resolve_loc`), and a write to `t` lands in
the frame where `t` is read afterwards (`upd_wr`). -/
def State.Loc (σ : State) (t : String) : Prop :=
  ∃ fp rest f, σ.env = fp :: rest ∧ σ.frame fp = some f ∧
    f.globals.contains t = false ∧ f.nonlocals.contains t = false

theorem frame_congr (σ σ' : State) (hf : σ'.frames = σ.frames) (a : Nat) : σ'.frame a = σ.frame a := by
  unfold State.frame; rw [hf]

theorem findDecl_congr (σ σ' : State) (hf : σ'.frames = σ.frames) (x : String) (env : List Nat) :
    σ'.findDecl env x = σ.findDecl env x := by
  induction env with
  | nil => rfl
  | cons b rest ih => simp only [State.findDecl, frame_congr σ σ' hf, ih]

theorem resolve_congr (σ σ' : State) (hf : σ'.frames = σ.frames) (x : String) (env : List Nat) :
    σ'.resolve env x = σ.resolve env x := by
  cases env with
  | nil => rfl
  | cons fp outer => simp only [State.resolve, frame_congr σ σ' hf, findDecl_congr σ σ' hf]

theorem lookupIn_congr (σ σ' : State) (hf : σ'.frames = σ.frames) (x : String) (env : List Nat) :
    σ'.lookupIn env x = σ.lookupIn env x := by
  simp only [State.lookupIn, resolve_congr σ σ' hf, frame_congr σ σ' hf]

theorem lookup_congr (σ σ' : State) (hf : σ'.frames = σ.frames) (he : σ'.env = σ.env) (x : String) :
    σ'.lookup x = σ.lookup x := by
  unfold State.lookup
  rw [he]
  exact lookupIn_congr σ σ' hf x σ.env

theorem loc_congr (σ σ' : State) (hf : σ'.frames = σ.frames) (he : σ'.env = σ.env) (x : String)
    (hl : σ.Loc x) : σ'.Loc x := by
  obtain ⟨fp, rest, f0, henv, hfp, hg, hn⟩ := hl
  exact ⟨fp, rest, f0, he.trans henv, (frame_congr σ σ' hf fp).trans hfp, hg, hn⟩

theorem resolve_loc (σ : State) (t : String) (hl : σ.Loc t) : σ.resolve σ.env t = σ.findDecl σ.env t := by
  obtain ⟨fp, rest, f, henv, hfp, hg, hn⟩ := hl
  rw [henv]
  simp only [State.resolve, hfp, hg, hn, Bool.false_eq_true, if_false]

theorem lookup_heap (τ : State) (h : List Obj) (x : String) :
    ({ τ with heap := h } : State).lookup x = τ.lookup x :=
  lookup_congr τ { τ with heap := h } rfl rfl x

theorem lookup_out (τ : State) (o : List String) (x : String) :
    ({ τ with out := o } : State).lookup x = τ.lookup x :=
  lookup_congr τ { τ with out := o } rfl rfl x

theorem frame_setFrame_same (σ : State) (a : Nat) (f g : Frame) (h : σ.frame a = some f) :
    (σ.setFrame a g).frame a = some g := by
  simp only [State.frame, State.setFrame, List.getElem?_set_self'] at h ⊢
  rw [h]; rfl

theorem frame_setFrame_other (σ : State) (a b : Nat) (g : Frame) (h : b ≠ a) :
    (σ.setFrame a g).frame b = σ.frame b :=
  List.getElem?_set_ne (Ne.symm h)

theorem findDecl_setFrame (σ : State) (a : Nat) (f g : Frame) (y : String)
    (hf : σ.frame a = some f) (hhas : alHas g.vars y = alHas f.vars y) (env : List Nat) :
    (σ.setFrame a g).findDecl env y = σ.findDecl env y := by
  induction env with
  | nil => rfl
  | cons b rest ih =>
    by_cases hb : b = a
    · subst hb
      simp only [State.findDecl, frame_setFrame_same σ b f g hf, hf, hhas, ih]
    · simp only [State.findDecl, frame_setFrame_other σ a b g hb, ih]

theorem resolve_setFrame (σ : State) (a : Nat) (f g : Frame) (y : String)
    (hf : σ.frame a = some f) (hg : g.globals = f.globals) (hn : g.nonlocals = f.nonlocals)
    (hget : alGet g.vars y = alGet f.vars y) (env : List Nat) :
    (σ.setFrame a g).resolve env y = σ.resolve env y := by
  have hhas : alHas g.vars y = alHas f.vars y := by rw [alHas_eq_isSome, alHas_eq_isSome, hget]
  cases env with
  | nil => rfl
  | cons fp outer =>
    by_cases hb : fp = a
    · subst hb
      simp only [State.resolve, frame_setFrame_same σ fp f g hf, hf, hg, hn,
        findDecl_setFrame σ fp f g y hf hhas]
    · simp only [State.resolve, frame_setFrame_other σ a fp g hb, findDecl_setFrame σ a f g y hf hhas]

theorem lookupIn_setFrame (σ : State) (a : Nat) (f g : Frame) (y : String)
    (hf : σ.frame a = some f) (hg : g.globals = f.globals) (hn : g.nonlocals = f.nonlocals)
    (hget : alGet g.vars y = alGet f.vars y) (env : List Nat) :
    (σ.setFrame a g).lookupIn env y = σ.lookupIn env y := by
  unfold State.lookupIn
  rw [resolve_setFrame σ a f g y hf hg hn hget]
  cases σ.resolve env y with
  | none => rfl
  | some b =>
    by_cases hb : b = a
    · subst hb
      simp only [frame_setFrame_same σ b f g hf, hf, hget]
    · simp only [frame_setFrame_other σ a b g hb]

theorem loc_setFrame (σ : State) (a : Nat) (f g : Frame) (x : String)
    (hf : σ.frame a = some f) (hg : g.globals = f.globals) (hn : g.nonlocals = f.nonlocals)
    (hl : σ.Loc x) : (σ.setFrame a g).Loc x := by
  obtain ⟨fp, rest, f0, henv, hfp, hgl, hnl⟩ := hl
  by_cases hb : fp = a
  · subst hb
    rw [hfp] at hf; cases hf
    exact ⟨fp, rest, g, henv, frame_setFrame_same σ fp _ g hfp, hg ▸ hgl, hn ▸ hnl⟩
  · exact ⟨fp, rest, f0, henv, (frame_setFrame_other σ a fp g hb).trans hfp, hgl, hnl⟩

theorem findDecl_some (σ : State) (env : List Nat) (x : String) (a : Nat)
    (h : σ.findDecl env x = some a) : ∃ f, σ.frame a = some f ∧ alHas f.vars x = true := by
  induction env with
  | nil => cases h
  | cons b rest ih =>
    simp only [State.findDecl] at h
    split at h
    next g hg =>
      split at h
      next hhas => cases h; exact ⟨g, hg, hhas⟩
      next => exact ih h
    next => exact ih h

/-- `loc` is here because every write has to hand on the invariant `Loc` of the simulations. -/
structure State.AgreeOff (σ σ' : State) (x : String) : Prop where
  heap : σ'.heap = σ.heap
  env : σ'.env = σ.env
  out : σ'.out = σ.out
  budget : σ'.budget = σ.budget
  other : ∀ y, y ≠ x → σ'.lookup y = σ.lookup y
  loc : ∀ y, σ.Loc y → σ'.Loc y

structure State.Upd (σ σ' : State) (x : String) (v : Val) : Prop extends State.AgreeOff σ σ' x where
  get : σ'.lookup x = .ok v

theorem State.AgreeOff.upd {σ σ1 σ2 : State} {x : String} {v : Val} (h1 : σ.AgreeOff σ1 x)
    (h2 : σ1.Upd σ2 x v) : σ.Upd σ2 x v :=
  ⟨⟨h2.heap.trans h1.heap, h2.env.trans h1.env, h2.out.trans h1.out, h2.budget.trans h1.budget,
    fun y hy => (h2.other y hy).trans (h1.other y hy), fun y hy => h2.loc y (h1.loc y hy)⟩, h2.get⟩

theorem agreeOff_setFrame (σ : State) (a : Nat) (f g : Frame) (x : String)
    (hf : σ.frame a = some f) (hg : g.globals = f.globals) (hn : g.nonlocals = f.nonlocals)
    (hget : ∀ y, y ≠ x → alGet g.vars y = alGet f.vars y) : σ.AgreeOff (σ.setFrame a g) x :=
  ⟨rfl, rfl, rfl, rfl, fun y hy => lookupIn_setFrame σ a f g y hf hg hn (hget y hy) σ.env,
    fun y => loc_setFrame σ a f g y hf hg hn⟩

def State.wr (σ : State) (a : Nat) (f : Frame) (t : String) (v : Val) : State :=
  σ.setFrame a { f with vars := alSet f.vars t (some v) }

theorem wr_heap (σ : State) (a : Nat) (f : Frame) (t : String) (v : Val) : (σ.wr a f t v).heap = σ.heap := rfl
theorem wr_out (σ : State) (a : Nat) (f : Frame) (t : String) (v : Val) : (σ.wr a f t v).out = σ.out := rfl
theorem wr_budget (σ : State) (a : Nat) (f : Frame) (t : String) (v : Val) : (σ.wr a f t v).budget = σ.budget := rfl

theorem setVarAt_eq (σ : State) (a : Nat) (f : Frame) (t : String) (v : Val) (hf : σ.frame a = some f) :
    σ.setVarAt a t v = .ok (σ.wr a f t v) := by
  simp only [State.setVarAt, hf, State.wr]

theorem findDecl_wr_same (σ : State) (env : List Nat) (t : String) (v : Val) (a : Nat) (f : Frame)
    (hf : σ.frame a = some f) (h : σ.findDecl env t = some a) :
    (σ.wr a f t v).findDecl env t = some a := by
  obtain ⟨f', hf', hhas⟩ := findDecl_some σ env t a h
  cases hf.symm.trans hf'
  exact (findDecl_setFrame σ a f _ t hf ((alHas_alSet_eq f.vars t (some v)).trans hhas.symm) env).trans h

theorem findDecl_wr_head (σ : State) (rest : List Nat) (t : String) (v : Val) (fp : Nat) (f : Frame)
    (hf : σ.frame fp = some f) :
    (σ.wr fp f t v).findDecl (fp :: rest) t = some fp := by
  simp only [State.findDecl, State.wr, frame_setFrame_same σ fp f _ hf, alHas_alSet_eq, if_true]

/-- `hfd` (the frame written is where `t` is found afterwards) covers both branches of `State.assign` —
`t` declared in `a`, or declared nowhere and created in the current frame — and `State.bindHere`. -/
theorem upd_wr (σ : State) (a : Nat) (f : Frame) (t : String) (v : Val) (hf : σ.frame a = some f)
    (hl : σ.Loc t) (hfd : (σ.wr a f t v).findDecl σ.env t = some a) : σ.Upd (σ.wr a f t v) t v := by
  have hoff : σ.AgreeOff (σ.wr a f t v) t :=
    agreeOff_setFrame σ a f _ t hf rfl rfl (fun y hy => alGet_alSet_ne f.vars t y (some v) hy)
  refine ⟨hoff, ?_⟩
  have hres := resolve_loc _ t (hoff.loc t hl)
  unfold State.lookup State.lookupIn
  rw [hres, hoff.env, hfd]
  simp only [State.wr, frame_setFrame_same σ a f _ hf, alGet_alSet_eq]

theorem assign_loc (σ : State) (t : String) (v : Val) (hl : σ.Loc t) :
    ∃ σ', σ.assign t v = .ok σ' ∧ σ.Upd σ' t v := by
  have hres := resolve_loc σ t hl
  have ⟨fp, rest, f0, henv, hfp, _, hn⟩ := hl
  unfold State.assign
  rw [hres]
  cases hfd : σ.findDecl σ.env t with
  | some a =>
    obtain ⟨f, hfa, _⟩ := findDecl_some σ σ.env t a hfd
    simp only [henv, setVarAt_eq σ a f t v hfa]
    exact ⟨_, rfl, upd_wr σ a f t v hfa hl (findDecl_wr_same σ σ.env t v a f hfa hfd)⟩
  | none =>
    simp only [henv, hfp, hn, Bool.false_eq_true, if_false, setVarAt_eq σ fp f0 t v hfp]
    exact ⟨_, rfl, upd_wr σ fp f0 t v hfp hl (henv ▸ findDecl_wr_head σ rest t v fp f0 hfp)⟩

theorem bindHere_upd {σ σ' : State} {t : String} {v : Val} (hl : σ.Loc t) (h : σ.bindHere t v = .ok σ') :
    σ.Upd σ' t v := by
  have ⟨fp, rest, f0, henv, hfp, _, _⟩ := hl
  simp only [State.bindHere, henv, setVarAt_eq σ fp f0 t v hfp] at h
  cases h
  exact upd_wr σ fp f0 t v hfp hl (henv ▸ findDecl_wr_head σ rest t v fp f0 hfp)

theorem evalOpd_lit (σ : State) (c : Val) : σ.evalOpd (.lit c) = .ok c := rfl

theorem evalOpd_var (σ : State) (y : String) : σ.evalOpd (.var y) = σ.lookup y := rfl

theorem binop_ok {σ σ' : State} {op : String} {a b v : Val} (h : σ.binop op a b = .ok (v, σ')) :
    ∃ h', binopH σ.heap op a b = .ok (v, h') ∧ σ' = { σ with heap := h' } := by
  unfold State.binop at h
  split at h
  next h' hop => cases h; exact ⟨h', hop, rfl⟩
  next => cases h

/-- the empty token marks a plain copy. -/
theorem unopH_ne_empty {h : List Obj} {op : String} {a v : Val} (hop : unopH h op a = .ok v) : op ≠ "" := by
  rintro rfl
  simp only [unopH] at hop
  cases ha : asInt? a <;> simp [ha] at hop

theorem step_assign_bin (τ : State) (t op : String) (a b : Opd) (va vb v : Val) (h' : List Obj)
    (ha : τ.evalOpd a = .ok va) (hb : τ.evalOpd b = .ok vb)
    (hop : binopH τ.heap op va vb = .ok (v, h')) (hl : τ.Loc t) :
    ∃ τ', stepSimple τ (.assign t op a (some b)) = some (.ok τ') ∧
      ({ τ with heap := h' } : State).Upd τ' t v := by
  obtain ⟨τ', has, hu⟩ := assign_loc { τ with heap := h' } t v (loc_congr τ _ rfl rfl t hl)
  exact ⟨τ', by simp only [stepSimple, ha, hb, State.binop, hop, has], hu⟩

theorem step_assign_un (τ : State) (t op : String) (a : Opd) (va v : Val)
    (ha : τ.evalOpd a = .ok va) (hne : op ≠ "") (hop : unopH τ.heap op va = .ok v) (hl : τ.Loc t) :
    ∃ τ', stepSimple τ (.assign t op a none) = some (.ok τ') ∧ τ.Upd τ' t v := by
  obtain ⟨τ', has, hu⟩ := assign_loc τ t v hl
  exact ⟨τ', by simp only [stepSimple, ha, beq_iff_eq, hne, State.unop, hop, has, if_false], hu⟩

theorem step_assign_copy (τ : State) (t : String) (a : Opd) (v : Val)
    (ha : τ.evalOpd a = .ok v) (hl : τ.Loc t) :
    ∃ τ', stepSimple τ (.assign t "" a none) = some (.ok τ') ∧ τ.Upd τ' t v := by
  obtain ⟨τ', has, hu⟩ := assign_loc τ t v hl
  exact ⟨τ', by simp only [stepSimple, ha, beq_self_eq_true, has, if_true], hu⟩

end LianVerif.Gir
