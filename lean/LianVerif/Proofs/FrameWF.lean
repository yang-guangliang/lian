/-
Well-formedness of frames (rectangular, one label per row) is preserved by every pandas reference
operation of `Model/Frame.lean`.  Used to show that the `IndexError` branches the totalised row
accessors carry (`labels[i]?` missing for an existing row) are unreachable.
-/
import LianVerif.Model.Frame

namespace LianVerif.Table
namespace Frame

def WF (f : Frame) : Prop :=
  f.labels.length = f.rows.length ∧ ∀ r ∈ f.rows, r.length = f.cols.length

theorem rangeLabels_length (n : Nat) : (rangeLabels n).length = n := by simp [rangeLabels]

theorem wf_empty : WF Frame.empty := ⟨rfl, fun _ h => nomatch h⟩

theorem wf_ofRows {cols : List String} {rows : List (List Cell)}
    (h : ∀ r ∈ rows, r.length = cols.length) : WF (ofRows cols rows) :=
  ⟨rangeLabels_length _, h⟩

theorem wf_ofDicts (ds : List (List (String × Cell))) : WF (ofDicts ds) :=
  ⟨by simp [ofDicts, rangeLabels_length], List.forall_mem_map.2 fun _ _ => List.length_map _⟩

theorem wf_ilocSlice {f : Frame} (h : WF f) (a b : Int) : WF (f.ilocSlice a b) :=
  ⟨by simp [ilocSlice, h.1], fun r hr => h.2 r (List.mem_of_mem_drop (List.mem_of_mem_take hr))⟩

theorem getD_mem {rows : List (List Cell)} {p : Nat} (hp : p < rows.length) : rows.getD p [] ∈ rows := by
  rw [List.getD_eq_getElem?_getD, List.getElem?_eq_getElem hp]
  exact List.getElem_mem hp

theorem wf_ilocTake {f g : Frame} (h : WF f) {ps : List Nat} (hg : f.ilocTake ps = some g) : WF g := by
  unfold ilocTake at hg
  split at hg <;> cases hg
  rename_i hall
  exact ⟨by simp, List.forall_mem_map.2 fun p hp =>
    h.2 _ (getD_mem (of_decide_eq_true (List.all_eq_true.1 hall p hp)))⟩

theorem labelPos_lt {f : Frame} {l : Int} {p : Nat} (h : f.labelPos l = some p) : p < f.labels.length := by
  unfold labelPos at h
  simp only at h
  split at h <;> cases h
  assumption

theorem wf_locTake {f g : Frame} (h : WF f) {ls : List Int} (hg : f.locTake ls = some g) : WF g := by
  unfold locTake at hg
  split at hg <;> cases hg
  rename_i hall
  refine ⟨by simp, List.forall_mem_map.2 fun l hl => ?_⟩
  cases hp : f.labelPos l with
  | none => have := List.all_eq_true.1 hall l hl; rw [hp] at this; cases this
  | some p => exact h.2 _ (getD_mem (h.1 ▸ labelPos_lt hp))

theorem zip_filter_length {α β : Type} (m : List Bool) :
    ∀ (xs : List α) (ys : List β), xs.length = ys.length →
      ((xs.zip m).filter (fun x => x.2)).length = ((ys.zip m).filter (fun x => x.2)).length := by
  induction m with
  | nil => intro xs ys _; simp
  | cons b m ih =>
    rintro (_ | ⟨x, xs⟩) (_ | ⟨y, ys⟩) h
    · rfl
    · cases h
    · cases h
    · cases b <;> simp [ih xs ys (Nat.succ.inj h)]

theorem wf_maskTake {f : Frame} (h : WF f) (m : List Bool) : WF (f.maskTake m) :=
  ⟨by simp only [maskTake, List.length_map]; exact zip_filter_length m _ _ h.1,
   List.forall_mem_map.2 fun x hx => h.2 _ (List.of_mem_zip (List.mem_filter.1 hx).1).1⟩

theorem normPos_lt {n : Nat} {i : Int} {r : Nat} (h : normPos n i = some r) : r < n := by
  unfold normPos at h
  split at h
  · split at h <;> cases h
    omega
  · split at h <;> cases h
    omega

theorem wf_set {f : Frame} (h : WF f) {r : Nat} {row : List Cell} (hr : r < f.rows.length)
    (hrow : row.length = (f.rows.getD r []).length) : WF { f with rows := f.rows.set r row } :=
  ⟨by simp [h.1], fun x hx => by
    rcases List.mem_or_eq_of_mem_set hx with hx | rfl
    · exact h.2 x hx
    · exact hrow.trans (h.2 _ (getD_mem hr))⟩

theorem wf_setIloc {f : Frame} (h : WF f) (i : Int) (newRow : List Cell) (stop : Option Nat) :
    WF (f.setIloc i newRow stop).1 := by
  unfold setIloc
  split
  · exact h
  · split
    · exact h
    · rename_i r hn
      exact wf_set h (normPos_lt hn) (by simp)

theorem wf_setCol {f g : Frame} (h : WF f) {c : String} {vals : List Cell}
    (hg : f.setCol c vals = .ok g) : WF g := by
  unfold setCol at hg
  split at hg
  · -- the empty frame takes the length of `vals`
    split at hg <;> cases hg <;>
      exact ⟨by simp [rangeLabels_length], List.forall_mem_map.2 fun _ _ => by simp [ncols]⟩
  · split at hg
    · cases hg
    · rename_i hl
      have hl : vals.length = f.rows.length := by simpa [nrows] using hl
      split at hg <;> cases hg <;>
        exact ⟨by simp [h.1, hl], List.forall_mem_map.2 fun x hx => by
          simp [h.2 _ (List.of_mem_zip hx).1]⟩

theorem wf_setLoc {f : Frame} (h : WF f) (label : Int) (c : String) (v : Cell) (refused : Bool) :
    WF (f.setLoc label c v refused).1 := by
  unfold setLoc
  split
  · rename_i r p hl _
    split
    · exact h
    · exact wf_set h (h.1 ▸ labelPos_lt hl) (List.length_set ..)
  · have hw : ∀ row : List Cell, row.length = f.cols.length →
        WF { f with labels := f.labels ++ [label], rows := f.rows ++ [row] } := fun row hrow =>
      ⟨by simp [h.1], fun x hx => by
        rcases List.mem_append.1 hx with hx | hx
        · exact h.2 x hx
        · cases List.mem_singleton.1 hx; exact hrow⟩
    split <;> exact hw _ (by simp [ncols])
  · exact ⟨by simp [h.1, nrows], List.forall_mem_map.2 fun x hx => by
      simp [h.2 _ (List.of_mem_zip hx).1]⟩
  · refine ⟨by simp [h.1], fun x hx => ?_⟩
    rcases List.mem_append.1 hx with hx | hx
    · obtain ⟨r, hr, rfl⟩ := List.mem_map.1 hx
      simp [h.2 r hr]
    · cases List.mem_singleton.1 hx; simp [ncols]

theorem wf_renameCol {f : Frame} (h : WF f) (old new : String) : WF (f.renameCol old new) :=
  ⟨h.1, fun r hr => (h.2 r hr).trans (List.length_map _).symm⟩

theorem wf_concat {f g : Frame} (hf : WF f) : WF (f.concat g) := by
  unfold concat
  refine ⟨by simp [rangeLabels_length, nrows], fun r hr => ?_⟩
  simp only [List.mem_append, List.mem_map] at hr
  rcases hr with ⟨r', hr', rfl⟩ | ⟨r', _, rfl⟩
  · simp [hf.2 r' hr']
  · simp

theorem wf_filterNe {f g : Frame} (h : WF f) {c : String} {v : Cell} (hg : f.filterNe c v = some g) :
    WF g := by
  unfold filterNe at hg
  split at hg <;> cases hg
  exact wf_maskTake h _

theorem wf_resetIndex {f : Frame} (h : WF f) : WF f.resetIndex :=
  ⟨rangeLabels_length _, h.2⟩

theorem wf_resetIndexMove {f g : Frame} (h : WF f) (hg : f.resetIndexMove = .ok g) : WF g := by
  unfold resetIndexMove at hg
  simp only at hg
  split at hg
  · cases hg
  · cases hg
    exact ⟨by simp [rangeLabels_length, nrows, h.1], List.forall_mem_map.2 fun x hx => by
      simp [h.2 _ (List.of_mem_zip hx).1]⟩

theorem wf_fillna {f : Frame} (h : WF f) (v : Cell) : WF (f.fillna v) :=
  ⟨by simp [fillna, h.1], List.forall_mem_map.2 fun r hr => by simp [fillna, h.2 r hr]⟩

theorem wf_setColumns {f g : Frame} (h : WF f) {names : List String} (hg : f.setColumns names = .ok g) :
    WF g := by
  unfold setColumns at hg
  split at hg <;> cases hg
  rename_i hl
  have hl : names.length = f.cols.length := by simpa [ncols] using hl
  exact ⟨h.1, fun r hr => (h.2 r hr).trans hl.symm⟩

theorem ilocTake_isSome {f : Frame} {l : List Nat} (h : ∀ p ∈ l, p < f.nrows) :
    ∃ g, f.ilocTake l = some g := by
  unfold Frame.ilocTake
  rw [if_pos (List.all_eq_true.2 fun p hp => decide_eq_true (h p hp))]
  exact ⟨_, rfl⟩

theorem clampBound_ofNat {n : Nat} {a : Nat} (h : a ≤ n) : clampBound n (Int.ofNat a) = a := by
  unfold clampBound
  rw [if_neg (by simp)]
  exact Nat.min_eq_left h

end Frame
end LianVerif.Table
