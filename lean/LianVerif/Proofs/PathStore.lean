/-
C19: the repaired PathTrie / PathManager refines the set-of-maximal-paths specification.  `Inv` is the
representation invariant of the trie; under it every test the manager makes on the trie is a statement
about prefixes of the stored paths, and `specAdd` is met through its three cases (invalid, blocked, free).
The second half (`namespace C19`) works on the specification alone: its states are duplicate-free antichains
of valid paths (`SpecOk`), and without removals they are the maximal elements of what was added (`IsMaxSet`).
-/
import LianVerif.Model.PathStore
import LianVerif.Spec.MaxPaths
import LianVerif.Proofs.ListAux

namespace LianVerif.PathStore
open LianVerif.MaxPaths

variable {α : Type} [DecidableEq α]

def Inv (s : Store α) : Prop :=
  ∀ n, n ∈ s.nodes ↔ (n ≠ [] ∧ ∃ t ∈ s.terms, n <+: t)

theorem strictPrefix_iff {q p : List α} :
    strictPrefix q p = true ↔ q <+: p ∧ q.length ≠ p.length := by
  simp [strictPrefix, List.isPrefixOf_iff_prefix]

theorem strictPrefix_iff_ne {q p : List α} :
    strictPrefix q p = true ↔ q <+: p ∧ q ≠ p := by
  rw [strictPrefix_iff]
  constructor
  · rintro ⟨h, hl⟩; exact ⟨h, fun e => hl (by rw [e])⟩
  · rintro ⟨h, hne⟩; exact ⟨h, fun hl => hne (h.eq_of_length hl)⟩

theorem strictPrefix_irrefl (p : List α) : strictPrefix p p = false := by
  simp [strictPrefix]

theorem strictPrefix_trans_prefix {a b c : List α} (h1 : strictPrefix a b = true) (h2 : b <+: c) :
    strictPrefix a c = true := by
  rw [strictPrefix_iff] at *
  refine ⟨h1.1.trans h2, ?_⟩
  have := h1.1.length_le
  have := h2.length_le
  omega

theorem strictPrefix_child {p t : List α} (h : strictPrefix p t = true) :
    ∃ c, p <+: c ∧ c.length = p.length + 1 ∧ c <+: t := by
  rw [strictPrefix_iff] at h
  obtain ⟨⟨r, rfl⟩, hl⟩ := h
  cases r with
  | nil => simp at hl
  | cons e r =>
    refine ⟨p ++ [e], List.prefix_append _ _, by simp, ?_⟩
    exact ⟨r, by simp⟩

theorem hasChild_iff {s : Store α} (h : Inv s) (p : List α) :
    hasChild s.nodes p = true ↔ ∃ t ∈ s.terms, strictPrefix p t = true := by
  simp only [hasChild, List.any_eq_true, Bool.and_eq_true, List.isPrefixOf_iff_prefix, beq_iff_eq]
  constructor
  · rintro ⟨c, hc, hpc, hl⟩
    obtain ⟨_, t, ht, hct⟩ := (h c).1 hc
    refine ⟨t, ht, ?_⟩
    rw [strictPrefix_iff]
    refine ⟨hpc.trans hct, ?_⟩
    have := hct.length_le; omega
  · rintro ⟨t, ht, hpt⟩
    obtain ⟨c, hpc, hl, hct⟩ := strictPrefix_child hpt
    refine ⟨c, (h c).2 ⟨?_, t, ht, hct⟩, hpc, hl⟩
    intro e; subst e; simp at hl

theorem present_iff {s : Store α} (h : Inv s) (p : List α) :
    present s p = true ↔ (p = [] ∨ ∃ t ∈ s.terms, p <+: t) := by
  simp only [present, Bool.or_eq_true, List.isEmpty_iff, List.contains_iff_mem]
  constructor
  · rintro (h0 | h1)
    · exact Or.inl h0
    · exact Or.inr ((h p).1 h1).2
  · rintro (h0 | h1)
    · exact Or.inl h0
    · by_cases hp : p = []
      · exact Or.inl hp
      · exact Or.inr ((h p).2 ⟨hp, h1⟩)

theorem prefix_mem_iff {S : List (List α)} {p : List α} :
    (∃ t ∈ S, p <+: t) ↔ p ∈ S ∨ ∃ t ∈ S, strictPrefix p t = true := by
  constructor
  · rintro ⟨t, ht, hpt⟩
    by_cases e : p = t
    · exact Or.inl (e ▸ ht)
    · exact Or.inr ⟨t, ht, strictPrefix_iff_ne.2 ⟨hpt, e⟩⟩
  · rintro (h | ⟨t, ht, hpt⟩)
    · exact ⟨p, h, List.prefix_refl p⟩
    · exact ⟨t, ht, (strictPrefix_iff.1 hpt).1⟩

theorem reject_iff {s : Store α} (h : Inv s) (p : List α) :
    (present s p && (s.terms.contains p || hasChild s.nodes p)) = true ↔ ∃ t ∈ s.terms, p <+: t := by
  rw [Bool.and_eq_true, Bool.or_eq_true, present_iff h, hasChild_iff h, List.contains_iff_mem, ← prefix_mem_iff]
  exact ⟨And.right, fun h => ⟨Or.inr h, h⟩⟩

def PruneInv (nodes terms : List (List α)) (q : List α) : Prop :=
  ∀ n, n ∈ nodes ↔ (n ≠ [] ∧ ((∃ t ∈ terms, n <+: t) ∨ n <+: q))

omit [DecidableEq α] in
theorem prefix_dropLast_of_ne {n q : List α} (h : n <+: q) (hne : n ≠ q) : n <+: q.dropLast := by
  have hq : q ≠ [] := by rintro rfl; exact hne (List.prefix_nil.1 h)
  rw [← List.dropLast_concat_getLast hq, List.prefix_concat_iff] at h
  exact h.resolve_left (by rwa [List.dropLast_concat_getLast hq])

omit [DecidableEq α] in
theorem length_dropLast_lt {q : List α} (hq : q ≠ []) : q.dropLast.length < q.length := by
  rw [List.length_dropLast]
  exact Nat.sub_one_lt (Nat.ne_of_gt (List.length_pos_iff.2 hq))

theorem prune_succ (terms : List (List α)) (fuel : Nat) (nodes : List (List α)) (q : List α) :
    prune terms (fuel + 1) nodes q =
      if q.isEmpty then nodes
      else if hasChild nodes q || terms.contains q then nodes
      else prune terms fuel (nodes.filter (fun n => n != q)) q.dropLast := rfl

omit [DecidableEq α] in
theorem pruneInv_iff {nodes terms : List (List α)} {q : List α} :
    PruneInv nodes terms q ↔ Inv { nodes := nodes, terms := q :: terms } := by
  simp only [PruneInv, Inv, List.mem_cons, exists_eq_or_imp, or_comm]

theorem prune_inv (terms : List (List α)) :
    ∀ (fuel : Nat) (nodes : List (List α)) (q : List α), q.length < fuel →
      PruneInv nodes terms q → Inv { nodes := prune terms fuel nodes q, terms := terms } := by
  intro fuel
  induction fuel with
  | zero => exact fun _ _ hf => absurd hf (Nat.not_lt_zero _)
  | succ fuel ih =>
    intro nodes q hf hJ
    have hI := pruneInv_iff.1 hJ
    -- the walk stops where `q` is the root or still lies on a stored path: `q` is not needed as a path
    have stop : (q = [] ∨ ∃ t ∈ terms, q <+: t) → Inv { nodes := nodes, terms := terms } := by
      intro hq n
      rw [hI n]
      refine and_congr_right fun hn => ?_
      simp only [List.mem_cons, exists_eq_or_imp]
      refine ⟨fun h => h.elim (fun hnq => ?_) id, Or.inr⟩
      rcases hq with rfl | ⟨t, ht, hqt⟩
      · exact absurd (List.prefix_nil.1 hnq) hn
      · exact ⟨t, ht, hnq.trans hqt⟩
    have test : (hasChild nodes q || terms.contains q) = true ↔ ∃ t ∈ terms, q <+: t := by
      rw [Bool.or_eq_true, hasChild_iff hI q, List.contains_iff_mem, or_comm, prefix_mem_iff]
      simp only [List.mem_cons, exists_eq_or_imp, strictPrefix_irrefl, Bool.false_eq_true, false_or]
    rw [prune_succ]
    by_cases hq : q = []
    · rw [if_pos (by rw [hq]; rfl)]; exact stop (Or.inl hq)
    · rw [if_neg (by rwa [List.isEmpty_iff])]
      split
      · rename_i hstop
        exact stop (Or.inr (test.1 hstop))
      · rename_i hstop
        refine ih _ _ (Nat.lt_of_lt_of_le (length_dropLast_lt hq) (Nat.le_of_lt_succ hf)) (pruneInv_iff.2 fun n => ?_)
        rw [List.mem_filter, hI n]
        simp only [List.mem_cons, exists_eq_or_imp, bne_iff_ne, ne_eq]
        constructor
        · rintro ⟨⟨hn, h | h⟩, hnq⟩
          · exact ⟨hn, Or.inl (prefix_dropLast_of_ne h hnq)⟩
          · exact ⟨hn, Or.inr h⟩
        · rintro ⟨hn, h | ⟨t, ht, hnt⟩⟩
          · refine ⟨⟨hn, Or.inl (h.trans (List.dropLast_prefix q))⟩, ?_⟩
            rintro rfl
            exact Nat.lt_irrefl _ (Nat.lt_of_le_of_lt h.length_le (length_dropLast_lt hq))
          · exact ⟨⟨hn, Or.inr ⟨t, ht, hnt⟩⟩, fun e => hstop (test.2 ⟨t, ht, e ▸ hnt⟩)⟩

theorem unmark_terms (s : Store α) (q : List α) :
    (unmark s q).terms = s.terms.filter (fun t => t != q) := by
  unfold unmark; split <;> rfl

theorem unmark_inv {s : Store α} (h : Inv s) (q : List α) : Inv (unmark s q) := by
  unfold unmark
  by_cases hp : present s q = true
  · simp only [hp, if_true]
    apply prune_inv _ _ _ _ (Nat.lt_succ_self _)
    intro n
    rw [h n]
    simp only [List.mem_filter, bne_iff_ne, ne_eq]
    constructor
    · rintro ⟨hn, t, ht, hnt⟩
      refine ⟨hn, ?_⟩
      by_cases htq : t = q
      · subst htq; exact Or.inr hnt
      · exact Or.inl ⟨t, ⟨ht, htq⟩, hnt⟩
    · rintro ⟨hn, ⟨t, ⟨ht, _⟩, hnt⟩ | hnq⟩
      · exact ⟨hn, t, ht, hnt⟩
      · refine ⟨hn, ?_⟩
        rcases (present_iff h q).1 hp with rfl | ⟨t, ht, hqt⟩
        · exact absurd (List.prefix_nil.1 hnq) hn
        · exact ⟨t, ht, hnq.trans hqt⟩
  · simp only [hp, Bool.false_eq_true, if_false]
    -- `q` is not on the trie at all, so it is not stored and the filter removes nothing
    have hq : q ∉ s.terms := fun hq => hp ((present_iff h q).2 (Or.inr ⟨q, hq, List.prefix_refl q⟩))
    rw [List.filter_eq_self.2 fun t ht => bne_iff_ne.2 fun e : t = q => hq (e ▸ ht)]
    exact h

theorem foldl_unmark_inv (rm : List (List α)) :
    ∀ {s : Store α}, Inv s → Inv (rm.foldl unmark s) := by
  induction rm with
  | nil => intro s h; exact h
  | cons q rm ih => intro s h; exact ih (unmark_inv h q)

theorem foldl_unmark_terms (rm : List (List α)) :
    ∀ (s : Store α), (rm.foldl unmark s).terms = s.terms.filter (fun t => !rm.contains t) := by
  induction rm with
  | nil => intro s; symm; apply List.filter_eq_self.2; intro t _; simp
  | cons q rm ih =>
    intro s
    simp only [List.foldl_cons]
    rw [ih, unmark_terms, List.filter_filter]
    congr 1
    funext t
    by_cases htq : t = q <;> simp [htq]

theorem mem_addNodes {nodes qs : List (List α)} {n : List α} : n ∈ addNodes nodes qs ↔ (n ∈ nodes ∨ n ∈ qs) :=
  mem_foldl_addUnless

omit [DecidableEq α] in
theorem mem_nodePrefixes (p n : List α) : n ∈ nodePrefixes p ↔ (n ≠ [] ∧ n <+: p) := by
  simp only [nodePrefixes, List.mem_map, List.mem_range]
  constructor
  · rintro ⟨i, hi, rfl⟩
    exact ⟨List.ne_nil_of_length_pos (by rw [List.length_take]; omega), List.take_prefix _ _⟩
  · rintro ⟨hn, hnp⟩
    have hl := List.length_pos_iff.2 hn
    have := hnp.length_le
    exact ⟨n.length - 1, Nat.sub_one_lt_of_le hl this, by rw [Nat.sub_add_cancel hl]; exact (List.prefix_iff_eq_take.1 hnp).symm⟩

theorem mem_strictPrefixes (p q : List α) : q ∈ strictPrefixes p ↔ strictPrefix q p = true := by
  simp only [strictPrefixes, List.mem_map, List.mem_range, strictPrefix_iff]
  constructor
  · rintro ⟨i, hi, rfl⟩
    refine ⟨List.take_prefix _ _, ?_⟩
    rw [List.length_take, Nat.min_eq_left (Nat.le_of_lt hi)]; exact Nat.ne_of_lt hi
  · rintro ⟨hqp, hl⟩
    refine ⟨q.length, ?_, (List.prefix_iff_eq_take.1 hqp).symm⟩
    exact Nat.lt_of_le_of_ne hqp.length_le hl

theorem add_accept_terms (s : Store α) (p : List α) :
    (((strictPrefixes p).filter (fun q => s.terms.contains q)).foldl unmark s).terms
      = s.terms.filter (fun q => !strictPrefix q p) := by
  rw [foldl_unmark_terms]
  apply List.filter_congr
  intro t ht
  congr 1
  rw [Bool.eq_iff_iff, List.contains_iff_mem, List.mem_filter, mem_strictPrefixes,
    List.contains_iff_mem]
  exact ⟨fun h => h.1, fun h => ⟨h, ht⟩⟩

theorem add_inv {s : Store α} (h : Inv s) (p : List α) : Inv (add s p).1 := by
  unfold add
  split
  · exact h
  · rename_i hrej
    simp only
    have h1 := foldl_unmark_inv ((strictPrefixes p).filter (fun q => s.terms.contains q)) h
    intro n
    rw [mem_addNodes, h1 n, mem_nodePrefixes]
    simp only [List.mem_append, List.mem_singleton]
    constructor
    · rintro (⟨hn, t, ht, hnt⟩ | ⟨hn, hnp⟩)
      · exact ⟨hn, t, Or.inl ht, hnt⟩
      · exact ⟨hn, p, Or.inr rfl, hnp⟩
    · rintro ⟨hn, t, ht | rfl, hnt⟩
      · exact Or.inl ⟨hn, t, ht, hnt⟩
      · exact Or.inr ⟨hn, hnt⟩

theorem remove_inv {s : Store α} (h : Inv s) (p : List α) : Inv (remove s p).1 := by
  unfold remove; split
  · exact unmark_inv h p
  · exact h

omit [DecidableEq α] in
theorem inv_empty : Inv (Store.empty : Store α) := by
  intro n; simp [Store.empty]

omit [DecidableEq α] in
theorem run_cons (stp : Store α → Op α → Store α × Bool) (s : Store α) (op : Op α) (ops : List (Op α)) :
    run stp s (op :: ops) =
      ((run stp (stp s op).1 ops).1, ((stp s op).2, (stp s op).1.terms) :: (run stp (stp s op).1 ops).2) :=
  rfl

theorem specRun_cons (valid : α → Bool) (S : List (List α)) (op : Op α) (ops : List (Op α)) :
    specRun valid S (op :: ops) =
      ((specRun valid (specStep valid S op).1 ops).1,
        ((specStep valid S op).2, (specStep valid S op).1) :: (specRun valid (specStep valid S op).1 ops).2) :=
  rfl

theorem blocked_iff {S : List (List α)} {p : List α} :
    (S.contains p || S.any (fun q => strictPrefix p q)) = true ↔ ∃ q ∈ S, p <+: q := by
  rw [Bool.or_eq_true, List.contains_iff_mem, List.any_eq_true, prefix_mem_iff]

theorem specAdd_invalid {valid : α → Bool} {p : List α} (hv : p.all valid = false) (S : List (List α)) :
    specAdd valid S p = (S, false) := by
  unfold specAdd; rw [hv]; rfl

theorem specAdd_blocked {valid : α → Bool} {S : List (List α)} {p : List α} (hb : ∃ q ∈ S, p <+: q) :
    specAdd valid S p = (S, false) := by
  unfold specAdd
  rw [Bool.or_assoc, blocked_iff.2 hb, Bool.or_true, if_pos rfl]

theorem specAdd_free {valid : α → Bool} {S : List (List α)} {p : List α} (hv : p.all valid = true)
    (hb : ¬ ∃ q ∈ S, p <+: q) :
    specAdd valid S p = (S.filter (fun q => !strictPrefix q p) ++ [p], true) := by
  unfold specAdd
  rw [Bool.or_assoc, Bool.eq_false_iff.2 (mt blocked_iff.1 hb), hv]; rfl

theorem specAdd_props (valid : α → Bool) (S : List (List α)) (p : List α) (hv : p.all valid = true) :
    (∃ q ∈ (specAdd valid S p).1, p <+: q) ∧
    (∀ p', (∃ q ∈ S, p' <+: q) → ∃ q ∈ (specAdd valid S p).1, p' <+: q) ∧
    (∀ q ∈ (specAdd valid S p).1, q ∈ S ∨ q = p) := by
  by_cases hb : ∃ q ∈ S, p <+: q
  · rw [specAdd_blocked hb]
    exact ⟨hb, fun _ h => h, fun _ h => Or.inl h⟩
  · rw [specAdd_free hv hb]
    simp only [List.mem_append, List.mem_filter, List.mem_singleton, Bool.not_eq_true']
    refine ⟨⟨p, Or.inr rfl, List.prefix_refl p⟩, ?_, fun q hq => hq.imp_left And.left⟩
    rintro p' ⟨q, hq, hpq⟩
    cases hqp : strictPrefix q p with
    | true => exact ⟨p, Or.inr rfl, hpq.trans (strictPrefix_iff.1 hqp).1⟩
    | false => exact ⟨q, Or.inl ⟨hq, hqp⟩, hpq⟩

theorem step_refines (valid : α → Bool) {s : Store α} (h : Inv s) (op : Op α) :
    Inv (step valid s op).1 ∧ (step valid s op).1.terms = (specStep valid s.terms op).1 ∧
      (step valid s op).2 = (specStep valid s.terms op).2 := by
  cases op with
  | exist p => exact ⟨h, rfl, rfl⟩
  | remove p =>
    refine ⟨remove_inv h p, ?_⟩
    show (remove s p).1.terms = (specRemove s.terms p).1 ∧ (remove s p).2 = (specRemove s.terms p).2
    unfold remove specRemove
    split
    · exact ⟨unmark_terms s p, rfl⟩
    · exact ⟨rfl, rfl⟩
  | add p =>
    show Inv (mgrAdd valid s p).1 ∧ (mgrAdd valid s p).1.terms = (specAdd valid s.terms p).1 ∧
      (mgrAdd valid s p).2 = (specAdd valid s.terms p).2
    unfold mgrAdd
    cases hv : p.all valid with
    | false => rw [specAdd_invalid hv]; exact ⟨h, rfl, rfl⟩
    | true =>
      rw [Bool.not_true, if_neg Bool.false_ne_true]
      split
      · rename_i hm
        rw [specAdd_blocked ⟨p, List.contains_iff_mem.1 hm, List.prefix_refl p⟩]
        exact ⟨h, rfl, rfl⟩
      · refine ⟨add_inv h p, ?_⟩
        unfold add
        split
        · rename_i hrej
          rw [specAdd_blocked ((reject_iff h p).1 hrej)]
          exact ⟨rfl, rfl⟩
        · rename_i hrej
          rw [specAdd_free hv (mt (reject_iff h p).2 hrej)]
          exact ⟨congrArg (· ++ [p]) (add_accept_terms s p), rfl⟩

theorem step_add_free (valid : α → Bool) {s : Store α} (h : Inv s) {p : List α} (hv : p.all valid = true)
    (hb : ¬ ∃ q ∈ s.terms, p <+: q) :
    (step valid s (.add p)).2 = true ∧ p ∈ (step valid s (.add p)).1.terms := by
  obtain ⟨_, hT, hR⟩ := step_refines valid h (.add p)
  rw [hT, hR]
  show (specAdd valid _ p).2 = true ∧ p ∈ (specAdd valid _ p).1
  rw [specAdd_free hv hb]
  exact ⟨rfl, List.mem_append_right _ List.mem_cons_self⟩

end LianVerif.PathStore

namespace LianVerif.C19
open LianVerif.PathStore LianVerif.MaxPaths

variable {α : Type} [DecidableEq α]

theorem refines_from (valid : α → Bool) (ops : List (Op α)) :
    ∀ (s : Store α), Inv s →
      Inv (run (step valid) s ops).1 ∧
      (run (step valid) s ops).1.terms = (specRun valid s.terms ops).1 ∧
      (run (step valid) s ops).2 = (specRun valid s.terms ops).2 := by
  induction ops with
  | nil => intro s h; exact ⟨h, rfl, rfl⟩
  | cons op ops ih =>
    intro s h
    obtain ⟨hinv, hterms, hret⟩ := step_refines valid h op
    obtain ⟨ih1, ih2, ih3⟩ := ih (step valid s op).1 hinv
    rw [run_cons, specRun_cons, ← hterms, ← hret]
    exact ⟨ih1, ih2, congrArg _ ih3⟩

def SpecOk (valid : α → Bool) (S : List (List α)) : Prop :=
  S.Nodup ∧ (∀ p ∈ S, p.all valid = true) ∧ (∀ p ∈ S, ∀ q ∈ S, strictPrefix p q = false)

theorem SpecOk.filter {valid : α → Bool} {S : List (List α)} (h : SpecOk valid S) (f : List α → Bool) :
    SpecOk valid (S.filter f) :=
  ⟨h.1.filter _, fun q hq => h.2.1 q (List.mem_filter.1 hq).1,
    fun q hq r hr => h.2.2 q (List.mem_filter.1 hq).1 r (List.mem_filter.1 hr).1⟩

theorem specStep_ok (valid : α → Bool) {S : List (List α)} (h : SpecOk valid S) (op : Op α) :
    SpecOk valid (specStep valid S op).1 := by
  cases op with
  | exist p => exact h
  | remove p =>
    show SpecOk valid (specRemove S p).1
    unfold specRemove
    split
    · exact h.filter _
    · exact h
  | add p =>
    show SpecOk valid (specAdd valid S p).1
    cases hv : p.all valid with
    | false => rw [specAdd_invalid hv]; exact h
    | true =>
      by_cases hb : ∃ q ∈ S, p <+: q
      · rw [specAdd_blocked hb]; exact h
      · rw [specAdd_free hv hb]
        obtain ⟨hnd, hval, hmax⟩ := h.filter (fun q => !strictPrefix q p)
        refine ⟨nodup_concat hnd fun ha => hb ⟨p, (List.mem_filter.1 ha).1, List.prefix_refl p⟩, ?_, ?_⟩
        · rw [List.forall_mem_append, List.forall_mem_singleton]
          exact ⟨hval, hv⟩
        · simp only [List.mem_append, List.mem_singleton]
          rintro q (hq | rfl) r (hr | rfl)
          · exact hmax q hq r hr
          · simpa using (List.mem_filter.1 hq).2
          · exact Bool.eq_false_iff.2 fun hqr =>
              hb ⟨r, (List.mem_filter.1 hr).1, (strictPrefix_iff.1 hqr).1⟩
          · exact strictPrefix_irrefl _

theorem specRun_ok (valid : α → Bool) (ops : List (Op α)) :
    ∀ S, SpecOk valid S → SpecOk valid (specRun valid S ops).1 ∧
      ∀ o ∈ (specRun valid S ops).2, SpecOk valid o.2 := by
  induction ops with
  | nil => exact fun S h => ⟨h, nofun⟩
  | cons op ops ih =>
    intro S h
    have h1 := specStep_ok valid h op
    rw [specRun_cons, List.forall_mem_cons]
    exact ⟨(ih _ h1).1, h1, (ih _ h1).2⟩

theorem specRun_ok_nil (valid : α → Bool) (ops : List (Op α)) :
    SpecOk valid (specRun valid [] ops).1 ∧ ∀ o ∈ (specRun valid [] ops).2, SpecOk valid o.2 :=
  specRun_ok valid ops [] ⟨List.nodup_nil, nofun, nofun⟩

def validAdded (valid : α → Bool) : List (Op α) → List (List α)
  | [] => []
  | .add p :: ops => if p.all valid then p :: validAdded valid ops else validAdded valid ops
  | _ :: ops => validAdded valid ops

def addOnly : List (Op α) → Bool
  | [] => true
  | .add _ :: ops => addOnly ops
  | .exist _ :: ops => addOnly ops
  | .remove _ :: _ => false

omit [DecidableEq α] in
theorem addOnly_eq_all (ops : List (Op α)) :
    addOnly ops = ops.all (fun op => match op with | .remove _ => false | _ => true) := by
  induction ops with
  | nil => rfl
  | cons op ops ih =>
    cases op with
    | add _ => exact ih
    | exist _ => exact ih
    | remove _ => rfl

omit [DecidableEq α] in
theorem validAdded_eq_filterMap (valid : α → Bool) (ops : List (Op α)) :
    validAdded valid ops =
      ops.filterMap (fun op => match op with | .add p => if p.all valid then some p else none | _ => none) := by
  induction ops with
  | nil => rfl
  | cons op ops ih =>
    rw [List.filterMap_cons, ← ih]
    cases op with
    | add p =>
      show (if p.all valid then p :: validAdded valid ops else validAdded valid ops) = _
      dsimp only
      cases p.all valid <;> rfl
    | remove p => rfl
    | exist p => rfl

def IsMaxSet (X S : List (List α)) : Prop :=
  ∀ p, p ∈ S ↔ (p ∈ X ∧ maximalIn X p = true)

theorem maximalIn_iff {X : List (List α)} {p : List α} :
    maximalIn X p = true ↔ ∀ q ∈ X, strictPrefix p q = false := by
  simp [maximalIn]

theorem exists_max_above_aux (X : List (List α)) :
    ∀ (n : Nat) (q : List α), q ∈ X → (∀ r ∈ X, r.length ≤ q.length + n) →
      ∃ q' ∈ X, q <+: q' ∧ maximalIn X q' = true := by
  intro n
  induction n with
  | zero =>
    intro q hq hb
    refine ⟨q, hq, List.prefix_refl q, maximalIn_iff.2 fun r hr => Bool.eq_false_iff.2 fun hs => ?_⟩
    obtain ⟨hqr, hl⟩ := strictPrefix_iff.1 hs
    exact hl (Nat.le_antisymm hqr.length_le (hb r hr))
  | succ n ih =>
    intro q hq hb
    cases hm : maximalIn X q with
    | true => exact ⟨q, hq, List.prefix_refl q, hm⟩
    | false =>
      obtain ⟨r, hr, hqr⟩ := List.any_eq_true.1 (by simpa [maximalIn] using hm)
      obtain ⟨hp, hl⟩ := strictPrefix_iff.1 hqr
      obtain ⟨q', hq', hrq', hmax⟩ := ih r hr fun t ht => by
        have := hb t ht; have := hp.length_le; omega
      exact ⟨q', hq', hp.trans hrq', hmax⟩

/-- by induction on the room left up to the longest path -/
theorem exists_max_above (X : List (List α)) (q : List α) (hq : q ∈ X) :
    ∃ q' ∈ X, q <+: q' ∧ maximalIn X q' = true := by
  have hB : ∃ B, ∀ r ∈ X, r.length ≤ B := by
    clear hq
    induction X with
    | nil => exact ⟨0, nofun⟩
    | cons x X ih =>
      obtain ⟨B, hB⟩ := ih
      exact ⟨max x.length B, List.forall_mem_cons.2
        ⟨Nat.le_max_left .., fun r hr => Nat.le_trans (hB r hr) (Nat.le_max_right ..)⟩⟩
  obtain ⟨B, hB⟩ := hB
  exact exists_max_above_aux X B q hq fun r hr => Nat.le_trans (hB r hr) (Nat.le_add_left ..)

theorem specAdd_maxset (valid : α → Bool) {X S : List (List α)} (h : IsMaxSet X S) (p : List α)
    (hv : p.all valid = true) : IsMaxSet (X ++ [p]) (specAdd valid S p).1 := by
  have hmaxX' : ∀ r, maximalIn (X ++ [p]) r = true ↔
      (maximalIn X r = true ∧ strictPrefix r p = false) := by
    intro r
    simp only [maximalIn_iff, List.mem_append, List.mem_singleton]
    constructor
    · intro hh; exact ⟨fun q hq => hh q (Or.inl hq), hh p (Or.inr rfl)⟩
    · rintro ⟨h1, h2⟩ q (hq | rfl)
      · exact h1 q hq
      · exact h2
  by_cases hb : ∃ q ∈ S, p <+: q
  · rw [specAdd_blocked hb]
    obtain ⟨q, hqS, hpq⟩ := hb
    obtain ⟨hqX, hqmax⟩ := (h q).1 hqS
    intro r
    rw [h r, hmaxX' r, List.mem_append, List.mem_singleton]
    constructor
    · rintro ⟨hrX, hrmax⟩
      refine ⟨Or.inl hrX, hrmax, Bool.eq_false_iff.2 fun hrp => ?_⟩
      have := strictPrefix_trans_prefix hrp hpq
      rw [(maximalIn_iff.1 hrmax) q hqX] at this
      cases this
    · rintro ⟨hrX | rfl, hrmax, hrp⟩
      · exact ⟨hrX, hrmax⟩
      · -- r = p: p ≤ q ∈ X and p maximal in X force p = q ∈ X
        by_cases hpq' : r = q
        · subst hpq'; exact ⟨hqX, hrmax⟩
        · have := (maximalIn_iff.1 hrmax) q hqX
          rw [strictPrefix_iff_ne.2 ⟨hpq, hpq'⟩] at this
          cases this
  · rw [specAdd_free hv hb]
    intro r
    rw [hmaxX' r]
    simp only [List.mem_append, List.mem_singleton, List.mem_filter, Bool.not_eq_true']
    constructor
    · rintro (⟨hrS, hrp⟩ | rfl)
      · obtain ⟨hrX, hrmax⟩ := (h r).1 hrS
        exact ⟨Or.inl hrX, hrmax, hrp⟩
      · refine ⟨Or.inr rfl, maximalIn_iff.2 fun q hqX => Bool.eq_false_iff.2 fun hpq => ?_,
          strictPrefix_irrefl _⟩
        -- r = p is maximal in X: any extension in X lies below a maximal one, which is stored
        obtain ⟨q', hq'X, hqq', hq'max⟩ := exists_max_above X q hqX
        exact hb ⟨q', (h q').2 ⟨hq'X, hq'max⟩, (strictPrefix_iff.1 (strictPrefix_trans_prefix hpq hqq')).1⟩
    · rintro ⟨hrX | rfl, hrmax, hrp⟩
      · exact Or.inl ⟨(h r).2 ⟨hrX, hrmax⟩, hrp⟩
      · exact Or.inr rfl

theorem specRun_addOnly (valid : α → Bool) (ops : List (Op α)) :
    ∀ (X S : List (List α)), IsMaxSet X S → addOnly ops = true →
      IsMaxSet (X ++ validAdded valid ops) (specRun valid S ops).1 := by
  induction ops with
  | nil => exact fun X S h _ => by rwa [show validAdded valid [] = [] from rfl, List.append_nil]
  | cons op ops ih =>
    intro X S h hao
    rw [specRun_cons]
    cases op with
    | remove p => cases hao
    | exist p => exact ih X S h hao
    | add p =>
      show IsMaxSet (X ++ if p.all valid then p :: validAdded valid ops else validAdded valid ops)
        (specRun valid (specAdd valid S p).1 ops).1
      cases hv : p.all valid with
      | true =>
        rw [if_pos rfl, ← List.singleton_append, ← List.append_assoc]
        exact ih _ _ (specAdd_maxset valid h p hv) hao
      | false =>
        rw [specAdd_invalid hv]
        exact ih X S h hao

end LianVerif.C19
