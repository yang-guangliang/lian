/-
Facts that do not mention the model: a fold that accumulates a disjunction, the "append `a` unless it is
already there" idiom by which lian's passes keep a list as an ordered set, a sum of bounded terms, and
`==` under an injective map.
-/
namespace LianVerif

theorem foldl_or_iff {σ ε : Type} {f : σ → ε → σ} {P : σ → Prop} {Q : ε → Prop}
    (h : ∀ s e, P (f s e) ↔ P s ∨ Q e) (es : List ε) (s : σ) :
    P (es.foldl f s) ↔ P s ∨ ∃ e ∈ es, Q e := by
  induction es generalizing s with
  | nil => simp
  | cons e es ih => rw [List.foldl_cons, ih, h, or_assoc]; simp only [List.mem_cons, exists_eq_or_imp]

theorem beq_inj {ν μ : Type} [DecidableEq ν] [DecidableEq μ] (σ : ν → μ) (hinj : Function.Injective σ)
    (a b : ν) : (σ a == σ b) = (a == b) := by
  rw [Bool.eq_iff_iff, beq_iff_eq, beq_iff_eq, hinj.eq_iff]

theorem sum_map_le_mul {α : Type} {f : α → Nat} {c : Nat} {l : List α} (h : ∀ x ∈ l, f x ≤ c) :
    (l.map f).sum ≤ c * l.length := by
  induction l with
  | nil => exact Nat.le_refl 0
  | cons a l ih =>
    have := h a List.mem_cons_self
    have := ih fun x hx => h x (List.mem_cons_of_mem a hx)
    rw [List.map_cons, List.sum_cons, List.length_cons, Nat.mul_succ]; omega

theorem nodup_concat {α : Type} {l : List α} {a : α} (h : l.Nodup) (ha : a ∉ l) : (l ++ [a]).Nodup :=
  List.nodup_append.2 ⟨h, List.pairwise_singleton _ a, fun _ hx _ hb => by
    rw [List.mem_singleton.1 hb]; rintro rfl; exact ha hx⟩

variable {α : Type} [BEq α] [LawfulBEq α] {l : List α} {a x : α}

theorem mem_addUnless : x ∈ (if l.contains a then l else l ++ [a]) ↔ x ∈ l ∨ x = a := by
  split
  · rename_i hc
    exact ⟨Or.inl, fun h => h.elim id (· ▸ List.contains_iff_mem.1 hc)⟩
  · simp

theorem mem_foldl_addUnless {b : List α} :
    x ∈ b.foldl (fun acc y => if acc.contains y then acc else acc ++ [y]) l ↔ x ∈ l ∨ x ∈ b :=
  (foldl_or_iff (P := (x ∈ ·)) (Q := (x = ·)) (fun _ _ => mem_addUnless) b l).trans (by simp)

theorem nodup_addUnless (h : l.Nodup) (a : α) : (if l.contains a then l else l ++ [a]).Nodup := by
  split
  · exact h
  · rename_i hc
    exact nodup_concat h (mt List.contains_iff_mem.2 hc)

theorem nodup_foldl_addUnless (h : l.Nodup) (b : List α) :
    (b.foldl (fun acc y => if acc.contains y then acc else acc ++ [y]) l).Nodup :=
  List.foldlRecOn b _ h fun _ hacc y _ => nodup_addUnless hacc y

end LianVerif
