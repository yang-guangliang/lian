/-
Proofs/ArefExact.lean — exactness of the reference abstract interpreter on the object-free, call-free
sub-fragment whose binary operations have at most one variable operand: every abstract element is
taken by some execution.
-/
import LianVerif.Proofs.Aref

namespace LianVerif.ArefProofs
open LianVerif.Aref LianVerif.Collect

/-- at most one operand is a variable (then the transfer function reads one variable and the
per-variable value sets lose nothing; with two variable operands a non-relational analysis combines
values of different executions — `C09_binop_all_combinations` states what the result is then). -/
def LinOp : Opnd → Opnd → Bool
  | .var _, .var _ => false
  | _, _ => true

def CoreLin : Prg → Bool
  | .skip => true
  | .seq a b => CoreLin a && CoreLin b
  | .const .. => true
  | .copy .. => true
  | .bin _ _ _ a b => LinOp a b
  | .ite _ t e => CoreLin t && CoreLin e
  | _ => false

def AllDefined (op : String) (A B : ASet) : Prop :=
  ∀ a ∈ A, ∀ b ∈ B, ∃ pa pb pv, a = AVal.const pa ∧ b = AVal.const pb ∧
    cBin op (.prim pa) (.prim pb) = some (.prim pv)

/-- in particular no unknown, no retained or invented value in the result; asked only where every combination
of operand elements is defined. -/
def ABinExact (ab : ABin) : Prop :=
  ∀ op A B r, ab op A B = some r → AllDefined op A B → ∀ x ∈ r, ∃ a ∈ A, ∃ b ∈ B, ∃ pa pb pv,
    a = AVal.const pa ∧ b = AVal.const pb ∧ cBin op (.prim pa) (.prim pb) = some (.prim pv) ∧ x = AVal.const pv

abbrev Envs := CEnv → Prop

def next (P : Prog) (p : Prg) (R : Envs) : Envs := fun ρ' => ∃ ρ, R ρ ∧ ∃ r ∈ runs P p ρ, r.1 = ρ'

/-- no execution raises: every operation is defined on every path. -/
def NoStuck (P : Prog) : Prg → Envs → Prop
  | .skip, _ => True
  | .seq a b, R => NoStuck P a R ∧ NoStuck P b (next P a R)
  | .ite _ t e, R => NoStuck P t R ∧ NoStuck P e R
  | .const k x c, R => ∀ ρ, R ρ → stepC P (.const k x c) ρ ≠ none
  | .copy k x y, R => ∀ ρ, R ρ → stepC P (.copy k x y) ρ ≠ none
  | .bin k x op a b, R => ∀ ρ, R ρ → stepC P (.bin k x op a b) ρ ≠ none
  | .new k x cls a, R => ∀ ρ, R ρ → stepC P (.new k x cls a) ρ ≠ none
  | .fwrite o f a, R => ∀ ρ, R ρ → stepC P (.fwrite o f a) ρ ≠ none
  | .fread k x o f, R => ∀ ρ, R ρ → stepC P (.fread k x o f) ρ ≠ none
  | .call k x h args, R => ∀ ρ, R ρ → stepC P (.call k x h args) ρ ≠ none

def Realised (σ : AEnv) (R : Envs) : Prop :=
  ∀ x S, σ.vars x = some S → ∀ a ∈ S, ∃ ρ, R ρ ∧ ∃ p, ρ.vars x = some (.prim p) ∧ a = AVal.const p

/-- what `exact_exec` carries along a program; `ne` because a constant is realised only if `R` has an environment. -/
structure Inv (σ : AEnv) (R : Envs) : Prop where
  ne : ∃ ρ, R ρ
  rel : ∀ ρ, R ρ → Rel σ ρ
  real : Realised σ R

def LogExact (P : Prog) (p : Prg) (alog : Log) (R : Envs) : Prop :=
  ∀ kA ∈ alog, ∀ a ∈ kA.2, ∃ ρ, R ρ ∧ ∃ r ∈ runs P p ρ, ∃ pv, (kA.1, CVal.prim pv) ∈ r.2 ∧ a = AVal.const pv

theorem writesOK_of_coreLin (ab : ABin) (P : Prog) : ∀ (p : Prg), CoreLin p = true → ∀ σ, WritesOK ab P p σ := by
  intro p
  induction p with
  | seq a b iha ihb =>
    intro hc σ
    replace hc := Bool.and_eq_true_iff.1 hc
    exact ⟨iha hc.1 σ, fun σ1 _ _ => ihb hc.2 σ1⟩
  | ite i t e iht ihe =>
    intro hc σ
    replace hc := Bool.and_eq_true_iff.1 hc
    exact ⟨iht hc.1 σ, ihe hc.2 σ⟩
  | fwrite o f a => intro hc; cases hc
  | _ => intro _ _; trivial

theorem runs_nonempty (P : Prog) : ∀ (p : Prg) (R : Envs), NoStuck P p R → ∀ ρ, R ρ → ∃ r, r ∈ runs P p ρ := by
  intro p
  induction p with
  | skip => intro R _ ρ _; exact ⟨(ρ, []), List.mem_singleton.2 rfl⟩
  | seq a b iha ihb =>
    intro R hn ρ hρ
    obtain ⟨r1, hr1⟩ := iha R hn.1 ρ hρ
    obtain ⟨r2, hr2⟩ := ihb (next P a R) hn.2 r1.1 ⟨ρ, hρ, r1, hr1, rfl⟩
    exact ⟨_, mem_runs_seq.2 ⟨r1, hr1, r2, hr2, rfl⟩⟩
  | ite i t e iht _ =>
    intro R hn ρ hρ
    obtain ⟨r, hr⟩ := iht R hn.1 ρ hρ
    exact ⟨r, mem_runs_ite.2 (.inl hr)⟩
  | _ =>
    intro R hn ρ hρ
    obtain ⟨r, hr⟩ := Option.ne_none_iff_exists'.1 (hn ρ hρ)
    exact ⟨r, Option.mem_toList.2 hr⟩

theorem mem_joinMap {κ : Type} {a b : κ → Option ASet} {y : κ} {S : ASet} {e : AVal} (hS : joinMap a b y = some S)
    (he : e ∈ S) : (∃ A, a y = some A ∧ e ∈ A) ∨ (∃ B, b y = some B ∧ e ∈ B) := by
  unfold joinMap at hS
  cases hA : a y with
  | none =>
    cases hB : b y with
    | none => rw [hA, hB] at hS; cases hS
    | some B => rw [hA, hB] at hS; cases hS; exact .inr ⟨_, rfl, he⟩
  | some A =>
    cases hB : b y with
    | none => rw [hA, hB] at hS; cases hS; exact .inl ⟨_, rfl, he⟩
    | some B =>
      rw [hA, hB] at hS; cases hS
      exact (mem_union.1 he).imp (fun h => ⟨_, rfl, h⟩) (fun h => ⟨_, rfl, h⟩)

theorem next_mono {P : Prog} {p q : Prg} {R : Envs} (h : ∀ ρ r, r ∈ runs P p ρ → r ∈ runs P q ρ) {ρ' : CEnv} :
    next P p R ρ' → next P q R ρ' :=
  fun ⟨ρ, hρ, r, hr, e⟩ => ⟨ρ, hρ, r, h ρ r hr, e⟩

theorem next_seq {P : Prog} {a b : Prg} {R : Envs} {ρ' : CEnv} : next P b (next P a R) ρ' → next P (.seq a b) R ρ'
  | ⟨_, ⟨ρ, hρ, r1, hr1, rfl⟩, r2, hr2, e⟩ => ⟨ρ, hρ, _, mem_runs_seq.2 ⟨r1, hr1, r2, hr2, rfl⟩, e⟩

theorem realised_mono {σ : AEnv} {R R' : Envs} (h : ∀ ρ, R ρ → R' ρ) (hr : Realised σ R) : Realised σ R' :=
  fun x S hS a ha => let ⟨ρ, hρ, w⟩ := hr x S hS a ha; ⟨ρ, h ρ hρ, w⟩

theorem logExact_mono {P : Prog} {p q : Prg} {alog : Log} {R : Envs} (h : ∀ ρ r, r ∈ runs P p ρ → r ∈ runs P q ρ)
    (hl : LogExact P p alog R) : LogExact P q alog R :=
  fun kA hkA a ha => let ⟨ρ, hρ, r, hr, w⟩ := hl kA hkA a ha; ⟨ρ, hρ, r, h ρ r hr, w⟩

theorem logExact_append {P : Prog} {p : Prg} {l1 l2 : Log} {R : Envs} (h1 : LogExact P p l1 R)
    (h2 : LogExact P p l2 R) : LogExact P p (l1 ++ l2) R :=
  fun kA hkA => (List.mem_append.1 hkA).elim (h1 kA) (h2 kA)

/-- a run of `a` that logs the element is continued by some run of `b`, since `b` is not stuck after `a`. -/
theorem logExact_seq_left {P : Prog} {a b : Prg} {l : Log} {R : Envs} (hn : NoStuck P b (next P a R))
    (h : LogExact P a l R) : LogExact P (.seq a b) l R := by
  intro kA hkA el hel
  obtain ⟨ρ, hρ, r1, hr1, pv, hpv, hap⟩ := h kA hkA el hel
  obtain ⟨r2, hr2⟩ := runs_nonempty P b (next P a R) hn r1.1 ⟨ρ, hρ, r1, hr1, rfl⟩
  exact ⟨ρ, hρ, _, mem_runs_seq.2 ⟨r1, hr1, r2, hr2, rfl⟩, pv, List.mem_append_left _ hpv, hap⟩

theorem logExact_seq_right {P : Prog} {a b : Prg} {l : Log} {R : Envs} (h : LogExact P b l (next P a R)) :
    LogExact P (.seq a b) l R := by
  intro kA hkA el hel
  obtain ⟨_, ⟨ρ, hρ, r1, hr1, rfl⟩, r2, hr2, pv, hpv, hap⟩ := h kA hkA el hel
  exact ⟨ρ, hρ, _, mem_runs_seq.2 ⟨r1, hr1, r2, hr2, rfl⟩, pv, List.mem_append_right _ hpv, hap⟩

/-- the invariant after `p`: relatedness by soundness, an environment because no execution is stuck. -/
theorem inv_next (ab : ABin) (hs : ABinSound ab) (P : Prog) {p : Prg} (hc : CoreLin p = true) {σ σ' : AEnv}
    {alog : Log} {R : Envs} (he : exec ab P p σ = some (σ', alog)) (hi : Inv σ R) (hn : NoStuck P p R)
    (hreal : Realised σ' (next P p R)) : Inv σ' (next P p R) := by
  obtain ⟨ρ0, h0⟩ := hi.ne
  obtain ⟨r, hr⟩ := runs_nonempty P p R hn ρ0 h0
  refine ⟨⟨r.1, ρ0, h0, r, hr, rfl⟩, ?_, hreal⟩
  rintro _ ⟨ρ, hρ, r, hr, rfl⟩
  exact (sound_exec ab hs P p σ (writesOK_of_coreLin ab P p hc σ) ρ σ' alog he (hi.rel ρ hρ) r hr).1

/-- an assignment `x := …` logged under `k`: `S` is exact when each of its elements is assigned by the step in some
environment of `R` (`hS`); every other variable keeps its realiser because no environment is stuck (`hstep`). -/
theorem exact_assign {P : Prog} {p : Prg} {σ : AEnv} {R : Envs} {x : Var} {k : Key} {S : ASet}
    (hreal : Realised σ R) (hruns : ∀ ρ, runs P p ρ = (stepC P p ρ).toList)
    (hstep : ∀ ρ, R ρ → ∃ v, stepC P p ρ = some (ρ.set x v, [(k, v)]))
    (hS : ∀ a ∈ S, ∃ ρ, R ρ ∧ ∃ pv, stepC P p ρ = some (ρ.set x (.prim pv), [(k, .prim pv)]) ∧ a = .const pv) :
    Realised (σ.set x S) (next P p R) ∧ LogExact P p [(k, S)] R := by
  have hnext : ∀ {ρ v}, R ρ → stepC P p ρ = some (ρ.set x v, [(k, v)]) → (ρ.set x v, [(k, v)]) ∈ runs P p ρ :=
    fun _ hv => by rw [hruns]; exact Option.mem_toList.2 hv
  constructor
  · intro y T hT a ha
    by_cases hy : y = x
    · subst hy
      simp only [AEnv.set, upd_same, Option.some.injEq] at hT
      subst hT
      obtain ⟨ρ, hρ, pv, hst, hev⟩ := hS a ha
      exact ⟨_, ⟨ρ, hρ, _, hnext hρ hst, rfl⟩, pv, cupd_same .., hev⟩
    · simp only [AEnv.set, upd_other _ _ hy] at hT
      obtain ⟨ρ, hρ, pv, hp, hap⟩ := hreal y T hT a ha
      obtain ⟨v, hv⟩ := hstep ρ hρ
      exact ⟨_, ⟨ρ, hρ, _, hnext hρ hv, rfl⟩, pv, (cupd_other _ _ hy).trans hp, hap⟩
  · intro kA hkA a ha
    cases List.mem_singleton.1 hkA
    obtain ⟨ρ, hρ, pv, hst, hev⟩ := hS a ha
    exact ⟨ρ, hρ, _, hnext hρ hst, pv, List.mem_singleton.2 rfl, hev⟩

theorem cBin_prim {op : String} {a b v : CVal} (h : cBin op a b = some v) :
    ∃ pa pb pv, a = .prim pa ∧ b = .prim pb ∧ v = .prim pv := by
  unfold cBin at h
  split at h
  · next o pa pb _ =>
    split at h
    · cases h; exact ⟨pa, pb, _, rfl, rfl, rfl⟩
    · cases h
  · cases h

theorem opnd_realised {σ : AEnv} {R : Envs} (hi : Inv σ R) (a : Opnd) (hb : ∀ ρ, R ρ → ∃ v, evalC ρ a = some v) :
    ∀ ea ∈ evalOpnd σ a, ∃ ρ, R ρ ∧ ∃ p, evalC ρ a = some (.prim p) ∧ ea = AVal.const p := by
  intro ea hm
  obtain ⟨ρ0, h0⟩ := hi.ne
  cases a with
  | const c => exact ⟨ρ0, h0, c, rfl, List.mem_singleton.1 hm⟩
  | var y =>
    obtain ⟨v0, hv0⟩ := hb ρ0 h0
    obtain ⟨S, hS, _⟩ := (hi.rel ρ0 h0).1 y v0 hv0
    simp only [evalOpnd, AEnv.get, hS, Option.getD] at hm
    exact hi.real y S hS ea hm

/-- with at most one variable operand, every pair of abstract operand elements is the pair of operand
values of ONE environment of `R`: a constant operand has its value in every environment. -/
theorem pair_realised {σ : AEnv} {R : Envs} (hi : Inv σ R) (a b : Opnd) (hl : LinOp a b = true)
    (hba : ∀ ρ, R ρ → ∃ v, evalC ρ a = some v) (hbb : ∀ ρ, R ρ → ∃ v, evalC ρ b = some v) :
    ∀ ea ∈ evalOpnd σ a, ∀ eb ∈ evalOpnd σ b, ∃ pa pb ρ, R ρ ∧ ea = AVal.const pa ∧ eb = AVal.const pb ∧
      evalC ρ a = some (.prim pa) ∧ evalC ρ b = some (.prim pb) := by
  intro ea hma eb hmb
  obtain ⟨ρa, hρa, pa, hva, rfl⟩ := opnd_realised hi a hba ea hma
  obtain ⟨ρb, hρb, pb, hvb, rfl⟩ := opnd_realised hi b hbb eb hmb
  cases a with
  | const ca => cases hva; exact ⟨_, pb, ρb, hρb, rfl, rfl, rfl, hvb⟩
  | var ya =>
    cases b with
    | const cb => cases hvb; exact ⟨pa, _, ρa, hρa, rfl, rfl, hva, rfl⟩
    | var yb => cases hl

theorem exact_exec (ab : ABin) (hs : ABinSound ab) (hx : ABinExact ab) (P : Prog) (p : Prg) (hc : CoreLin p = true)
    (σ : AEnv) (R : Envs) (σ' : AEnv) (alog : Log) (he : exec ab P p σ = some (σ', alog)) (hi : Inv σ R)
    (hn : NoStuck P p R) : Realised σ' (next P p R) ∧ LogExact P p alog R := by
  induction p generalizing σ R σ' alog with
  | skip =>
    cases he
    exact ⟨realised_mono (fun ρ h => ⟨ρ, h, (ρ, []), List.mem_singleton.2 rfl, rfl⟩) hi.real, fun _ h => nomatch h⟩
  | seq a b iha ihb =>
    replace hc := Bool.and_eq_true_iff.1 hc
    obtain ⟨σ1, l1, l2, h1, h2, rfl⟩ := exec_seq_some he
    obtain ⟨hre1, hl1⟩ := iha hc.1 σ R σ1 l1 h1 hi hn.1
    obtain ⟨hre2, hl2⟩ := ihb hc.2 σ1 (next P a R) σ' l2 h2 (inv_next ab hs P hc.1 h1 hi hn.1 hre1) hn.2
    exact ⟨realised_mono (fun _ => next_seq) hre2,
      logExact_append (logExact_seq_left hn.2 hl1) (logExact_seq_right hl2)⟩
  | ite i t e iht ihe =>
    replace hc := Bool.and_eq_true_iff.1 hc
    obtain ⟨σ1, l1, σ2, l2, h1, h2, rfl, rfl⟩ := exec_ite_some he
    obtain ⟨hre1, hl1⟩ := iht hc.1 σ R σ1 l1 h1 hi hn.1
    obtain ⟨hre2, hl2⟩ := ihe hc.2 σ R σ2 l2 h2 hi hn.2
    have hleft : ∀ ρ r, r ∈ runs P t ρ → r ∈ runs P (.ite i t e) ρ := fun _ _ h => mem_runs_ite.2 (.inl h)
    have hright : ∀ ρ r, r ∈ runs P e ρ → r ∈ runs P (.ite i t e) ρ := fun _ _ h => mem_runs_ite.2 (.inr h)
    refine ⟨fun y S hS a ha => ?_, logExact_append (logExact_mono hleft hl1) (logExact_mono hright hl2)⟩
    rcases mem_joinMap hS ha with ⟨A, hA, h⟩ | ⟨B, hB, h⟩
    · exact realised_mono (fun _ => next_mono hleft) hre1 y A hA a h
    · exact realised_mono (fun _ => next_mono hright) hre2 y B hB a h
  | const k x c =>
    obtain ⟨rfl, rfl⟩ := Prod.mk.inj (Option.some.inj he)
    obtain ⟨ρ0, h0⟩ := hi.ne
    exact exact_assign hi.real (fun _ => rfl) (fun ρ _ => ⟨_, rfl⟩)
      (fun a ha => ⟨ρ0, h0, c, rfl, List.mem_singleton.1 ha⟩)
  | copy k x y =>
    obtain ⟨rfl, rfl⟩ := Prod.mk.inj (Option.some.inj he)
    have hb : ∀ ρ, R ρ → ∃ v, evalC ρ (.var y) = some v := fun ρ hρ => by
      obtain ⟨_, hr⟩ := Option.ne_none_iff_exists'.1 (hn ρ hρ)
      obtain ⟨v, hv, _⟩ := Option.map_eq_some_iff.1 hr
      exact ⟨v, hv⟩
    refine exact_assign hi.real (fun _ => rfl) (fun ρ hρ => ?_) (fun a ha => ?_)
    · obtain ⟨v, hv⟩ := hb ρ hρ
      exact ⟨v, congrArg (Option.map _) hv⟩
    · obtain ⟨ρ, hρ, p, hp, hap⟩ := opnd_realised hi (.var y) hb a ha
      exact ⟨ρ, hρ, p, congrArg (Option.map _) hp, hap⟩
  | bin k x op a b =>
    obtain ⟨res, hr0, rfl, rfl⟩ := exec_bin_some he
    have hstep : ∀ ρ, R ρ → ∃ va vb v, evalC ρ a = some va ∧ evalC ρ b = some vb ∧ cBin op va vb = some v ∧
        stepC P (.bin k x op a b) ρ = some (ρ.set x v, [(k, v)]) := fun ρ hρ => by
      obtain ⟨r, hr⟩ := Option.ne_none_iff_exists'.1 (hn ρ hρ)
      obtain ⟨va, vb, v, ha, hb, hv, rfl⟩ := stepC_bin_some hr
      exact ⟨va, vb, v, ha, hb, hv, hr⟩
    -- every pair of abstract operand elements is the operand pair of one environment, hence defined
    have hpair := pair_realised hi a b hc (fun ρ hρ => by obtain ⟨va, _, _, ha, _⟩ := hstep ρ hρ; exact ⟨va, ha⟩)
      (fun ρ hρ => by obtain ⟨_, vb, _, _, hb, _⟩ := hstep ρ hρ; exact ⟨vb, hb⟩)
    have hdef : AllDefined op (evalOpnd σ a) (evalOpnd σ b) := by
      intro ea hma eb hmb
      obtain ⟨pa, pb, ρ, hρ, hea, heb, hva, hvb⟩ := hpair ea hma eb hmb
      obtain ⟨va, vb, v, ha, hb, hv, _⟩ := hstep ρ hρ
      rw [hva] at ha; rw [hvb] at hb; cases ha; cases hb
      obtain ⟨_, _, pv, _, _, rfl⟩ := cBin_prim hv
      exact ⟨pa, pb, pv, hea, heb, hv⟩
    refine exact_assign hi.real (fun _ => rfl) (fun ρ hρ => by obtain ⟨_, _, v, _, _, _, h⟩ := hstep ρ hρ; exact ⟨v, h⟩)
      (fun el hel => ?_)
    obtain ⟨ea, hma, eb, hmb, pa, pb, pv, hea, heb, hcb, hev⟩ := hx op _ _ res hr0 hdef el hel
    obtain ⟨pa', pb', ρ, hρ, hea', heb', hva, hvb⟩ := hpair ea hma eb hmb
    rw [hea] at hea'; rw [heb] at heb'; cases hea'; cases heb'
    exact ⟨ρ, hρ, pv, by unfold stepC; simp [hva, hvb, hcb], hev⟩
  | new k x cls a => cases hc
  | fwrite o f a => cases hc
  | fread k x o f => cases hc
  | call k x h args => cases hc

theorem mem_keysDedup_rev {k : Key} : ∀ (l : List Key), k ∈ keysDedup l → k ∈ l :=
  fun _ => mem_keysDedup.1

theorem exact_run (ab : ABin) (hs : ABinSound ab) (hx : ABinExact ab) (P : Prog) (hc : CoreLin P.body = true)
    (hn : NoStuck P P.body (fun ρ => ρ = CEnv.empty)) {res : Log} (hrun : run ab P = some res) {k : Key} {A' : ASet}
    (hA' : (k, A') ∈ res) {a : AVal} (ha : a ∈ A') : ∃ pv, a = AVal.const pv ∧ Takes P k (.prim pv) := by
  obtain ⟨σ', alog, he, rfl⟩ := run_eq_some hrun
  have hinv : Inv AEnv.empty (fun ρ => ρ = CEnv.empty) :=
    ⟨⟨CEnv.empty, rfl⟩, fun ρ hρ => hρ ▸ rel_empty, fun x S hS => (nomatch hS)⟩
  obtain ⟨A, hA, haA⟩ := of_mem_mergeLog hA' a ha
  obtain ⟨ρ, rfl, r, hr, pv, hpv, hap⟩ := (exact_exec ab hs hx P P.body hc AEnv.empty _ σ' alog he hinv hn).2 (k, A) hA a haA
  exact ⟨pv, hap, r, hr, hpv⟩

def isConst : AVal → Bool
  | .const _ => true
  | _ => false

def combo (op : String) (a b : AVal) : Option AVal :=
  match a, b with
  | .const pa, .const pb =>
    match cBin op (.prim pa) (.prim pb) with
    | some (.prim pv) => some (.const pv)
    | _ => none
  | _, _ => none

/-- an ideal folding for the non-vacuity examples: defined on sets of constants only. -/
def idealBin : ABin := fun op A B =>
  if A.all isConst && B.all isConst then some (A.flatMap (fun a => B.filterMap (fun b => combo op a b))) else none

theorem combo_eq_some {op : String} {a b x : AVal} (h : combo op a b = some x) :
    ∃ pa pb pv, a = .const pa ∧ b = .const pb ∧ cBin op (.prim pa) (.prim pb) = some (.prim pv) ∧ x = .const pv := by
  unfold combo at h
  split at h
  · next pa pb =>
    split at h
    · next pv hc => cases h; exact ⟨pa, pb, pv, rfl, rfl, hc, rfl⟩
    · cases h
  · cases h

theorem idealBin_sound : ABinSound idealBin := by
  intro op A B r a b v hr ha hb hv
  unfold idealBin at hr
  split at hr
  · next hall =>
    cases hr
    simp only [Bool.and_eq_true, List.all_eq_true] at hall
    obtain ⟨pa, pb, pv, rfl, rfl, rfl⟩ := cBin_prim hv
    have hA : AVal.const pa ∈ A := ha.resolve_left fun hu => nomatch hall.1 _ hu
    have hB : AVal.const pb ∈ B := hb.resolve_left fun hu => nomatch hall.2 _ hu
    exact .inr (List.mem_flatMap.2 ⟨_, hA, List.mem_filterMap.2 ⟨_, hB, by simp only [combo, hv]⟩⟩)
  · cases hr

theorem idealBin_exact : ABinExact idealBin := by
  intro op A B r hr _ x hx
  unfold idealBin at hr
  split at hr
  · cases hr
    obtain ⟨a, ha, hxa⟩ := List.mem_flatMap.1 hx
    obtain ⟨b, hb, hab⟩ := List.mem_filterMap.1 hxa
    obtain ⟨pa, pb, pv, rfl, rfl, hc, rfl⟩ := combo_eq_some hab
    exact ⟨_, ha, _, hb, pa, pb, pv, rfl, rfl, hc, rfl⟩
  · cases hr

end LianVerif.ArefProofs
