/-
Simulation of the Python statement handlers over pure expressions; no loops,
calls or `global`.
-/
import LianVerif.Proofs.LowerPy

namespace LianVerif.LowerPy
open LianVerif.Gir LianVerif.PySrc

theorem assignPy_eq_bindHere {σ : State} {x : String} (hl : σ.Loc x) (v : Val) :
    assignPy σ x v = σ.bindHere x v := by
  have ⟨fp, rest, f, henv, hf, hg, _⟩ := hl
  simp only [assignPy, State.bindHere, henv, hf, hg, Bool.false_eq_true, if_false]

theorem assignPy_upd {σ σ' : State} {x : String} {v : Val} (hl : σ.Loc x) (h : assignPy σ x v = .ok σ') :
    σ.Upd σ' x v :=
  bindHere_upd hl ((assignPy_eq_bindHere hl v).symm.trans h)

section
variable {fns : Prog} {f : Nat} {σ σ' : State} {rest : List PStmt} {o : Outcome}

theorem execP_pass : execP fns (f + 1) σ (.pass :: rest) = execP fns f σ rest := rfl

/-! An error of a sub-evaluation is the outcome of the list: hence the premise `hne`. -/

theorem execP_assign {x : String} {e : Expr} (h : execP fns (f + 1) σ (.assign x e :: rest) = (o, σ'))
    (hne : ∀ er, o ≠ .err er) :
    ∃ v σ1 σ2, evalE fns f σ e = (.ok v, σ1) ∧ assignPy σ1 x v = .ok σ2 ∧ execP fns f σ2 rest = (o, σ') := by
  simp only [execP] at h
  split at h
  next => cases h; exact absurd rfl (hne _)
  next v σ1 he =>
    split at h
    next σ2 ha => exact ⟨v, σ1, σ2, he, ha, h⟩
    next => cases h; exact absurd rfl (hne _)

theorem execP_aug {x op : String} {e : Expr} (h : execP fns (f + 1) σ (.aug x op e :: rest) = (o, σ'))
    (hne : ∀ er, o ≠ .err er) :
    ∃ old v σ1 nv h' σ3, σ.lookup x = .ok old ∧ evalE fns f σ e = (.ok v, σ1) ∧
      binopH σ1.heap op old v = .ok (nv, h') ∧ assignPy { σ1 with heap := h' } x nv = .ok σ3 ∧
      execP fns f σ3 rest = (o, σ') := by
  simp only [execP] at h
  split at h
  next => cases h; exact absurd rfl (hne _)
  next old hold =>
    split at h
    next => cases h; exact absurd rfl (hne _)
    next v σ1 he =>
      split at h
      next => cases h; exact absurd rfl (hne _)
      next nv σ2 hb =>
        obtain ⟨h', hop, rfl⟩ := binop_ok hb
        split at h
        next σ3 ha => exact ⟨old, v, σ1, nv, h', σ3, hold, he, hop, ha, h⟩
        next => cases h; exact absurd rfl (hne _)

theorem execP_exprS {e : Expr} (h : execP fns (f + 1) σ (.exprS e :: rest) = (o, σ'))
    (hne : ∀ er, o ≠ .err er) :
    ∃ v σ1, evalE fns f σ e = (.ok v, σ1) ∧ execP fns f σ1 rest = (o, σ') := by
  simp only [execP] at h
  split at h
  next => cases h; exact absurd rfl (hne _)
  next v σ1 he => exact ⟨v, σ1, he, h⟩

theorem execP_ret {e : Expr} (h : execP fns (f + 1) σ (.ret e :: rest) = (o, σ'))
    (hne : ∀ er, o ≠ .err er) : ∃ v, evalE fns f σ e = (.ok v, σ') ∧ o = .ret v := by
  simp only [execP] at h
  split at h
  next => cases h; exact absurd rfl (hne _)
  next v σ1 he => cases h; exact ⟨v, he, rfl⟩

theorem execP_ifS {c : Expr} {t e : List PStmt} (h : execP fns (f + 1) σ (.ifS c t e :: rest) = (o, σ'))
    (hne : ∀ er, o ≠ .err er) :
    ∃ vc σ1, evalE fns f σ c = (.ok vc, σ1) ∧
      andThen (if σ1.truthy vc then execP fns f σ1 t else execP fns f σ1 e) (fun σ2 => execP fns f σ2 rest)
        = (o, σ') := by
  simp only [execP] at h
  split at h
  next => cases h; exact absurd rfl (hne _)
  next vc σ1 hc => rw [apply_ite (execP fns f _)] at h; exact ⟨vc, σ1, hc, h⟩

end

def isNameOf (e : Expr) (x : String) : Bool :=
  match e with
  | .name y => y == x
  | _ => false

mutual
/-- `x = x` is excluded: the handler emits `variable_decl x` between the read and the write. -/
def stmtFrag : PStmt → Bool
  | .assign x e => pureFrag e && !isNameOf e x
  | .aug _ _ e => pureFrag e
  | .exprS e => pureFrag e
  | .ifS c t e => pureFrag c && bodyFrag t && bodyFrag e
  | .pass => true
  | .ret e => pureFrag e
  | _ => false

def bodyFrag : List PStmt → Bool
  | [] => true
  | s :: r => stmtFrag s && bodyFrag r
end

mutual
def NoTmpS : PStmt → Prop
  | .assign x e => (∀ n, x ≠ tmp n) ∧ NoTmp e
  | .aug x _ e => (∀ n, x ≠ tmp n) ∧ NoTmp e
  | .exprS e => NoTmp e
  | .ifS c t e => NoTmp c ∧ NoTmpB t ∧ NoTmpB e
  | .ret e => NoTmp e
  | _ => True

def NoTmpB : List PStmt → Prop
  | [] => True
  | s :: r => NoTmpS s ∧ NoTmpB r
end

theorem lowerB_cons (cfg : Cfg) (s : PStmt) (rest : List PStmt) (k : Nat) :
    lowerB cfg (s :: rest) k =
      ((lowerS cfg s k).1 ++ (lowerB cfg rest (lowerS cfg s k).2).1, (lowerB cfg rest (lowerS cfg s k).2).2) := rfl

theorem lowerS_assign (cfg : Cfg) (x : String) (e : Expr) (k : Nat) :
    lowerS cfg (.assign x e) k =
      ((lowerE cfg e k).1 ++ [.varDecl x, .assign x "" (lowerE cfg e k).2.1 none], (lowerE cfg e k).2.2) := rfl

theorem lowerS_exprS (cfg : Cfg) (e : Expr) (k : Nat) :
    lowerS cfg (.exprS e) k = ((lowerE cfg e k).1, (lowerE cfg e k).2.2) := rfl

theorem lowerS_ret (cfg : Cfg) (e : Expr) (k : Nat) :
    lowerS cfg (.ret e) k = ((lowerE cfg e k).1 ++ [.ret (lowerE cfg e k).2.1], (lowerE cfg e k).2.2) := rfl

theorem lowerS_ifS (cfg : Cfg) (c : Expr) (t e : List PStmt) (k : Nat) :
    lowerS cfg (.ifS c t e) k =
      ((lowerE cfg c k).1 ++ [.ifS (lowerE cfg c k).2.1 (lowerB cfg t (lowerE cfg c k).2.2).1
          (lowerB cfg e (lowerB cfg t (lowerE cfg c k).2.2).2).1],
       (lowerB cfg e (lowerB cfg t (lowerE cfg c k).2.2).2).2) := rfl

theorem lowerS_pass (cfg : Cfg) (k : Nat) : lowerS cfg .pass k = ([.pass], k) := rfl

theorem lowerS_aug (cfg : Cfg) (x op : String) (e : Expr) (k : Nat) :
    (lowerS cfg (.aug x op e) k).1 =
      if cfg.augFixed && !(lowerE cfg e k).1.isEmpty then
        [.assign (tmp ((lowerE cfg e k).2.2 + 1)) "" (.var x) none] ++ (lowerE cfg e k).1 ++
          [.assign x op (.var (tmp ((lowerE cfg e k).2.2 + 1))) (some (lowerE cfg e k).2.1)]
      else (lowerE cfg e k).1 ++ [.assign x op (.var x) (some (lowerE cfg e k).2.1)] := by
  simp only [lowerS]
  cases cfg.augFixed
  · rfl
  · cases hc : (lowerE cfg e k).1 with
    | nil => rfl
    | cons a as => rfl

/-- the operand of `e` is not `x` itself, so `variable_decl x` between its evaluation and the write to `x`
leaves its value alone (`Sim2.declset`). -/
theorem lowerE_opd_ne (cfg : Cfg) (e : Expr) (k : Nat) (x : String) (hp : pureFrag e = true)
    (hne : isNameOf e x = false) (hx : ∀ n, x ≠ tmp n) : (lowerE cfg e k).2.1 ≠ .var x := by
  cases e with
  | const c => exact nofun
  | name y => intro h; cases h; simp [isNameOf] at hne
  | bin op l r => intro h; exact hx _ (Opd.var.inj h).symm
  | un op e1 => intro h; exact hx _ (Opd.var.inj h).symm
  | _ => cases hp

theorem lowerE_sim2 (cfg : Cfg) (fns : Prog) {f : Nat} {e : Expr} (k : Nat) {σ τ σ1 : State} {v : Val}
    (hp : pureFrag e = true) (hnt : NoTmp e) (hev : evalE fns f σ e = (.ok v, σ1)) (hs : Sim2 σ τ) :
    ∃ τ1, Computes (lowerE cfg e k).1 (lowerE cfg e k).2.1 k (lowerE cfg e k).2.2 τ τ1 σ1 v ∧ Sim2 σ1 τ1 := by
  obtain ⟨τ1, c⟩ := lowerE_sim cfg fns f e hp hnt k hev hs.toSim
  have ⟨hfr, henv⟩ := evalE_pure_frames fns f e σ σ1 v hp hev
  exact ⟨τ1, c, c.sim, fun y => loc_congr σ σ1 hfr henv y (hs.sloc y), fun y => c.loc y (hs.tloc y)⟩

theorem aug_sim (cfg : Cfg) (fns : Prog) {f : Nat} {x op : String} {e : Expr} (k : Nat)
    {σ τ σ1 σ3 : State} {old v nv : Val} {h' : List Obj}
    (hp : pureFrag e = true) (hx : ∀ n, x ≠ tmp n) (hnt : NoTmp e)
    (hold : σ.lookup x = .ok old) (hev : evalE fns f σ e = (.ok v, σ1))
    (hbin : binopH σ1.heap op old v = .ok (nv, h'))
    (has : assignPy { σ1 with heap := h' } x nv = .ok σ3) (hs : Sim2 σ τ) :
    ∃ τ3, Sim2 σ3 τ3 ∧ Steps (lowerS cfg (.aug x op e) k).1 τ τ3 := by
  have hτx : τ.lookup x = .ok old := (hs.look x hx).symm.trans hold
  rw [lowerS_aug]
  split
  · -- the old value is copied to a temporary numbered above those of the code of `e`, which keeps it
    obtain ⟨τ0, hstep0, hu0⟩ := step_assign_copy τ (tmp ((lowerE cfg e k).2.2 + 1)) (.var x) old hτx (hs.tloc _)
    obtain ⟨τ1, c, hs1⟩ := lowerE_sim2 cfg fns k hp hnt hev (hs.write hu0)
    have hoa : τ1.evalOpd (.var (tmp ((lowerE cfg e k).2.2 + 1))) = .ok old :=
      (c.keep _ fun j _ hj e => by cases tmp_inj e; exact Nat.not_succ_le_self _ hj).trans hu0.get
    obtain ⟨τ3, hs3, hst⟩ := hs1.setBin hoa c.val hbin (assignPy_upd (hs1.sloc x) has)
    exact ⟨τ3, hs3, ((Steps.assign hs.budget hstep0).append c.steps).append hst⟩
  · -- `x` is read after the code of `e`, which writes temporaries only
    obtain ⟨τ1, c, hs1⟩ := lowerE_sim2 cfg fns k hp hnt hev hs
    have hoa : τ1.evalOpd (.var x) = .ok old := (c.keep x fun j _ _ => hx j).trans hτx
    obtain ⟨τ3, hs3, hst⟩ := hs1.setBin hoa c.val hbin (assignPy_upd (hs1.sloc x) has)
    exact ⟨τ3, hs3, c.steps.append hst⟩

theorem lowerB_sim (cfg : Cfg) (fns : Prog) : ∀ (fuel : Nat) (B : List PStmt),
    bodyFrag B = true → NoTmpB B →
    ∀ (k : Nat) {σ τ σ' : State} {o : Outcome}, execP fns fuel σ B = (o, σ') →
    Done o → Sim2 σ τ →
    ∃ τ', Sim2 σ' τ' ∧ Runs (lowerB cfg B k).1 τ τ' o := by
  intro fuel
  induction fuel with
  | zero => intro B _ _ k σ τ σ' o h ho _; cases h; exact absurd rfl (ho.ne_err _)
  | succ f ih =>
    intro B hfrag hnt k σ τ σ' o h ho hs
    cases B with
    | nil => cases h; exact ⟨τ, hs, Steps.nil.runs⟩
    | cons s B' =>
      simp only [bodyFrag, Bool.and_eq_true] at hfrag
      obtain ⟨hsf, hBf⟩ := hfrag
      obtain ⟨hnS, hnB⟩ := hnt
      have hne := ho.ne_err
      rw [lowerB_cons]
      cases s with
      | pass =>
        rw [lowerS_pass]
        exact (Steps.pass hs.budget).then_runs (ih B' hBf hnB _ h ho hs)
      | assign x e =>
        simp only [stmtFrag, Bool.and_eq_true, Bool.not_eq_true'] at hsf
        obtain ⟨v, σ1, σ2, h1, h2, h3⟩ := execP_assign h hne
        obtain ⟨τ1, c, hs1⟩ := lowerE_sim2 cfg fns k hsf.1 hnS.2 h1 hs
        obtain ⟨τ2, hs2, hst⟩ :=
          hs1.declset c.val (lowerE_opd_ne cfg e k x hsf.1 hsf.2 hnS.1) (assignPy_upd (hs1.sloc x) h2)
        rw [lowerS_assign]
        exact (c.steps.append hst).then_runs (ih B' hBf hnB _ h3 ho hs2)
      | aug x op e =>
        obtain ⟨old, v, σ1, nv, h', σ3, h0, h1, hb, h2, h3⟩ := execP_aug h hne
        obtain ⟨τ3, hs3, hst⟩ := aug_sim cfg fns k hsf hnS.1 hnS.2 h0 h1 hb h2 hs
        exact hst.then_runs (ih B' hBf hnB _ h3 ho hs3)
      | exprS e =>
        obtain ⟨v, σ1, h1, h3⟩ := execP_exprS h hne
        obtain ⟨τ1, c, hs1⟩ := lowerE_sim2 cfg fns k hsf hnS h1 hs
        rw [lowerS_exprS]
        exact c.steps.then_runs (ih B' hBf hnB _ h3 ho hs1)
      | ret e =>
        obtain ⟨v, h1, rfl⟩ := execP_ret h hne
        obtain ⟨τ1, c, hs1⟩ := lowerE_sim2 cfg fns k hsf hnS h1 hs
        rw [lowerS_ret]
        exact ⟨τ1, hs1, c.ret _⟩
      | ifS c t e =>
        simp only [stmtFrag, Bool.and_eq_true] at hsf
        obtain ⟨vc, σ1, h1, h3⟩ := execP_ifS h hne
        obtain ⟨τ1, cc, hs1⟩ := lowerE_sim2 cfg fns k hsf.1.1 hnS.1 h1 hs
        rw [lowerS_ifS]
        exact cc.ifS_seq (cc.sim.truthy vc) h3 ho
          (fun hob => ih t hsf.1.2 hnS.2.1 _ rfl hob hs1)
          (fun hob => ih e hsf.2 hnS.2.2 _ rfl hob hs1)
          (fun _ _ hs2 h5 => ih B' hBf hnB _ h5 ho hs2)
      | _ => cases hsf

end LianVerif.LowerPy
