/-
C12 (renumbering): `summarize_symbol_decls` — declarations, the worklist closure of the visible-scope
table, implicit roots — and `convert_stmt_id_to_scope_id` commute with every strictly monotone
renumbering fixing 0; with `scopeTableG_map` and `bind_mapSummary` this gives the whole per-unit
pipeline on ROWS.
-/
import LianVerif.Proofs.MetaScope
import LianVerif.Proofs.MetaRows

namespace LianVerif.Meta
open LianVerif.Scopes LianVerif.Resolver

variable {ρ : Nat → Nat}

theorem mapAvail_set (h : Mono ρ) (k : Nat) (v : List Int) : ∀ (a : Avail),
    Avail.set (mapAvail ρ a) (ρ k) (v.map (mapInt ρ)) = mapAvail ρ (Avail.set a k v) := by
  intro a
  induction a with
  | nil => rfl
  | cons p ps ih =>
    simp only [mapAvail, List.map_cons, Avail.set, h.beq] at ih ⊢
    split
    · rfl
    · rw [ih]; rfl

theorem addNew_map (h : Mono ρ) (xs : List Int) (x : Int) :
    addNew (xs.map (mapInt ρ)) (mapInt ρ x) = (addNew xs x).map (mapInt ρ) := by
  unfold addNew
  rw [containsInt_map h]
  split
  · rfl
  · simp only [List.map_append, List.map_cons, List.map_nil]

theorem union_map (h : Mono ρ) (ys xs : List Int) :
    union (xs.map (mapInt ρ)) (ys.map (mapInt ρ)) = (union xs ys).map (mapInt ρ) :=
  foldl_map_comm (mapInt ρ) (List.map (mapInt ρ)) (addNew_map h) ys xs

theorem initStep_map (h : Mono ρ) (a : Avail) (r : ScopeRec) :
    initStep (mapAvail ρ a) (mapRec ρ r) = mapAvail ρ (initStep a r) := by
  unfold initStep
  simp only [mapRec, mapAvail_get h]
  split
  · cases Avail.get a r.stmt with
    | none => simp only [Option.map_none, mapAvail, List.map_append, List.map_cons, List.map_nil]
    | some v => simp only [Option.map_some, addNew_map h, mapAvail_set h]
  · rfl

theorem availInit_map (h : Mono ρ) (recs : List ScopeRec) :
    availInit (recs.map (mapRec ρ)) = mapAvail ρ (availInit recs) :=
  foldl_map_comm (mapRec ρ) (mapAvail ρ) (initStep_map h) recs []

theorem pushNew_map (h : Mono ρ) (V : List Nat) (w : List Int) (i : Int) :
    pushNew (V.map ρ) (w.map (mapInt ρ)) (mapInt ρ i) = (pushNew V w i).map (mapInt ρ) := by
  have hc : (decide (0 ≤ mapInt ρ i) && (V.map ρ).contains (mapInt ρ i).toNat) = (decide (0 ≤ i) && V.contains i.toNat) := by
    by_cases hi : 0 ≤ i
    · rw [mapInt_toNat hi, contains_map h, decide_eq_true hi, decide_eq_true ((mapInt_nonneg_iff ρ i).2 hi)]
    · rw [decide_eq_false hi, decide_eq_false (mt (mapInt_nonneg_iff ρ i).1 hi)]; rfl
  unfold pushNew
  rw [containsInt_map h, hc]
  split
  · rfl
  · simp only [List.map_append, List.map_cons, List.map_nil]

def mapCState (ρ : Nat → Nat) (st : CState) : CState :=
  { avail := mapAvail ρ st.avail, visited := st.visited.map ρ, ok := st.ok }

theorem expand_map (h : Mono ρ) (A : Avail) (V : List Nat) (s : Nat) : ∀ (fuel : Nat) (wl acc : List Int),
    expand (mapAvail ρ A) (V.map ρ) (ρ s) fuel (wl.map (mapInt ρ)) (acc.map (mapInt ρ)) =
      ((expand A V s fuel wl acc).1.map (mapInt ρ), (expand A V s fuel wl acc).2) := by
  intro fuel
  induction fuel with
  | zero => intro wl acc; rw [expand, expand, List.isEmpty_map]
  | succ f ih =>
    intro wl acc
    cases wl with
    | nil => rfl
    | cons t wl =>
      rw [List.map_cons, expand, expand]
      by_cases ht : t ≤ 0
      · rw [if_pos ht, if_pos ((mapInt_le_zero h t).2 ht)]
        exact ih wl acc
      · rw [if_neg ht, if_neg (mt (mapInt_le_zero h t).1 ht), mapInt_toNat (Int.le_of_lt (Int.not_le.1 ht)), h.beq, mapAvail_get h,
          ← Option.map_some (f := List.map (mapInt ρ)), ← apply_ite _ ((t.toNat == s) = true)]
        cases (if (t.toNat == s) = true then some acc else Avail.get A t.toNat) with
        | none => exact ih wl acc
        | some at_ =>
          simp only [Option.map_some]
          rw [foldl_map_comm (mapInt ρ) (List.map (mapInt ρ)) (pushNew_map h V), union_map h]
          exact ih _ _

theorem closeStep_map (h : Mono ρ) (fuel : Nat) (st : CState) (s : Nat) :
    closeStep fuel (mapCState ρ st) (ρ s) = mapCState ρ (closeStep fuel st s) := by
  unfold closeStep
  simp only [mapCState, mapAvail_get h]
  cases Avail.get st.avail s with
  | none => rfl
  | some v =>
    simp only [Option.map_some, expand_map h, mapAvail_set h, List.map_append, List.map_cons, List.map_nil]

theorem closure_map (h : Mono ρ) (a : Avail) :
    closure (mapAvail ρ a) = (mapAvail ρ (closure a).1, (closure a).2) := by
  have hkeys : (mapAvail ρ a).map (·.1) = (a.map (·.1)).map ρ := by
    simp only [mapAvail, List.map_map]; rfl
  have hself : ∀ b : Avail, (mapAvail ρ b).map (fun p => (p.1, addNew p.2 (p.1 : Int))) =
      mapAvail ρ (b.map (fun p => (p.1, addNew p.2 (p.1 : Int)))) := fun b => by
    simp only [mapAvail, List.map_map]
    exact List.map_congr_left fun p _ => by
      simp only [Function.comp, ← mapInt_cast ρ p.1, addNew_map h]
  have hroot := fun b => mapAvail_set h 0 [0] b
  simp only [List.map_cons, List.map_nil, mapInt_zero h, h.zero] at hroot
  unfold closure
  simp only [hkeys, show (mapAvail ρ a).length = a.length from List.length_map _]
  rw [show ({ avail := mapAvail ρ a, visited := [], ok := true } : CState) =
      mapCState ρ { avail := a, visited := [], ok := true } from rfl,
    foldl_map_comm ρ (mapCState ρ) (closeStep_map h _)]
  simp only [mapCState, hself, hroot]

theorem implicitRoots_map (h : Mono ρ) (recs : List ScopeRec) :
    implicitRoots (recs.map (mapRec ρ)) = (implicitRoots recs).map (mapInt ρ) := by
  have h0 := fun i => mapInt_beq h i 0
  rw [mapInt_zero h] at h0
  unfold implicitRoots
  rw [List.filter_map, List.map_map, List.map_map]
  simp only [Function.comp_def, mapRec, h0, mapInt_cast]

theorem stmtScope_map (h : Mono ρ) (st : DState) (stmt : Nat) :
    stmtScope (mapDState ρ st) (ρ stmt) = mapInt ρ (stmtScope st stmt) := by
  unfold stmtScope
  simp only [mapDState, cacheGet_map h, h.eq_zero,
    find?_key_map (key := ScopeRec.stmt) (key' := ScopeRec.stmt) (mapRec ρ) (fun _ => rfl) h.beq]
  cases Cache.get st.cache stmt with
  | some r => simp only [Option.map_some, mapInt_cast]
  | none =>
    simp only [Option.map_none]
    split
    · exact (mapInt_neg_one ρ).symm
    · cases st.recs.find? (fun r => r.stmt == stmt) with
      | none => exact (mapInt_neg_one ρ).symm
      | some r => rfl

variable {ν : Type} [DecidableEq ν]

omit [DecidableEq ν] in
theorem decls_mapRows (h : Mono ρ) (lastSeg : ν → Option ν) (rows : List (Row ν)) (recs : List ScopeRec) :
    decls lastSeg (rows.map (mapScopeRow ρ)) (recs.map (mapRec ρ)) = (decls lastSeg rows recs).map (mapDecl ρ) := by
  unfold decls
  rw [List.filterMap_map, List.map_filterMap]
  congr 1
  funext rec
  simp only [Function.comp, mapRec,
    find?_key_map (key := Row.id) (key' := Row.id) (mapScopeRow (ν := ν) ρ) (fun _ => rfl) h.beq]
  split
  · cases rows.find? (fun r => r.id == rec.stmt) with
    | none => rfl
    | some r =>
      dsimp only [Option.map_some]
      rw [show declName lastSeg rec.kind (mapScopeRow ρ r) = declName lastSeg rec.kind r from rfl]
      cases declName lastSeg rec.kind r <;> rfl
  · rfl

omit [DecidableEq ν] in
theorem summaryOf_mapRecs (h : Mono ρ) (ds : List (Decl ν)) (recs : List ScopeRec) :
    summaryOf (ds.map (mapDecl ρ)) (recs.map (mapRec ρ)) = mapSummary ρ (summaryOf ds recs) := by
  unfold summaryOf mapSummary
  rw [availInit_map h, closure_map h, implicitRoots_map h]
  rfl

omit [DecidableEq ν] in
theorem shapes_mapScopeRow (ρ : Nat → Nat) (rows : List (Row ν)) :
    (rows.map (mapScopeRow ρ)).map Row.shape = (rows.map Row.shape).map (mapShape ρ) := by
  rw [List.map_map, List.map_map]; rfl

theorem bindTable_map (h : Mono ρ) (lastSeg : ν → Option ν) (rows : List (Row ν)) (st : DState)
    (stmt : Nat) (n : ν) (mode : Mode) :
    Resolver.bind (summaryOf (decls lastSeg (rows.map (mapScopeRow ρ)) (mapDState ρ st).recs) (mapDState ρ st).recs)
        (stmtScope (mapDState ρ st)) (ρ stmt) n mode =
      (Resolver.bind (summaryOf (decls lastSeg rows st.recs) st.recs) (stmtScope st) stmt n mode).map (mapDecl ρ) := by
  rw [show (mapDState ρ st).recs = st.recs.map (mapRec ρ) from rfl, decls_mapRows h, summaryOf_mapRecs h]
  exact bind_mapSummary h _ _ _ stmt (stmtScope_map h st stmt) n mode

theorem bindRows_mapRows (h : Mono ρ) (lastSeg : ν → Option ν) (t : OpTable) (rows : List (Row ν))
    (stmt : Nat) (n : ν) (mode : Mode) :
    bindRows lastSeg t (rows.map (mapScopeRow ρ)) (ρ stmt) n mode =
      (bindRows lastSeg t rows stmt n mode).map (mapDecl ρ) := by
  unfold bindRows
  rw [shapes_mapScopeRow, scopeTable, scopeTableG_map h]
  exact bindTable_map h lastSeg rows _ stmt n mode

theorem bindRows_editRows (e : Edit) (hρ : Mono e.ρ) (t : OpTable) (rows : List MRow) (stmt : Nat) (n : String)
    (mode : Mode) :
    bindRows lastSegStr t ((editRows e rows).map toScopeRow) (e.ρ stmt) n mode =
      (bindRows lastSegStr t ((rows.map fun r => if e.σOn r.id then rename e.σ r else r).map toScopeRow)
        stmt n mode).map (mapDecl e.ρ) := by
  rw [toScopeRows_editRows]
  exact bindRows_mapRows hρ lastSegStr t _ stmt n mode

theorem bindRows0_mapRows (h : Mono ρ) (lastSeg : ν → Option ν) (t : OpTable) (rows : List (Row ν))
    (stmt : Nat) (n : ν) (mode : Mode) :
    bindRows0 lastSeg t (rows.map (mapScopeRow ρ)) (ρ stmt) n mode =
      (bindRows0 lastSeg t rows stmt n mode).map (mapDecl ρ) := by
  unfold bindRows0
  rw [shapes_mapScopeRow, scopeTable0, scopeTableG_map h]
  exact bindTable_map h lastSeg rows _ stmt n mode

end LianVerif.Meta
