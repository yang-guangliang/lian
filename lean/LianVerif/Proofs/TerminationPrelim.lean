/-
C13, bottom-up driver `analyze_method`: one induction along `prelimDriver` accounts for its events.
-/
import LianVerif.Model.TerminationPrelim

namespace LianVerif.Termination

def pNIntr : PEv → Nat
  | .intr .. => 1
  | _ => 0

theorem pInterruptions_nil : pInterruptions [] = 0 := rfl

theorem pInterruptions_cons (e : PEv) (evs : List PEv) :
    pInterruptions (e :: evs) = pInterruptions evs + pNIntr e := by
  cases e <;> rfl

theorem pInterruptions_pushes (ks : List Int) (evs : List PEv) :
    pInterruptions (ks.map PEv.push ++ evs) = pInterruptions evs := by
  induction ks with
  | nil => rfl
  | cons k ks ih => exact ih

/-- an interruption puts on the stack a method of `M` that was neither analysed nor on it -/
theorem prelim_account (M : List Int) (hasBody : List Int → List PFrame → Nat → Bool)
    (oracle : List Int → List PFrame → Nat → List (Int × List Int))
    (stack : List PFrame) (analyzed : List Int) (tick : Nat) :
    pInterruptions (prelimDriver M hasBody oracle stack analyzed tick).1 ≤ pFree M analyzed stack ∧
    (prelimDriver M hasBody oracle stack analyzed tick).1.length ≤ prank M analyzed stack := by
  fun_induction prelimDriver M hasBody oracle stack analyzed tick with
    simp +zetaDelta only [pInterruptions_cons, pNIntr, pInterruptions_pushes, prank, pWeight, sumOver,
      List.length_cons, List.length_append, List.length_map, if_true] at *
  | case1 analyzed tick => exact ⟨Nat.zero_le _, Nat.zero_le _⟩
  -- initFail, done: the frame goes, its method is marked analysed
  | case2 analyzed tick f rest hi hb r ih | case5 analyzed tick f rest hi r hno ih =>
    have := pFree_pop_le M analyzed f rest
    omega
  | case3 analyzed tick f rest hi hb r ih =>
    have : pFree M analyzed ({ f with inited := true } :: rest) = pFree M analyzed (f :: rest) := rfl
    simp only [hi, this, Bool.false_eq_true, if_false] at ih ⊢
    omega
  -- interruption pushing `n` fresh frames: `4n` of free methods become `2n` of frame weight, paying
  -- the interruption and the `n` push events
  | case4 analyzed tick f rest hi s k ks hp r ih =>
    obtain ⟨_, hnd, hall⟩ := pFirst_some hp
    have h1 := pFree_push_all M analyzed (k :: ks) (f :: rest) hnd hall
    have h2 := pWeight_pPush (f :: rest) (k :: ks)
    simp only [pWeight, sumOver, List.length_cons] at h1 h2
    omega

end LianVerif.Termination
