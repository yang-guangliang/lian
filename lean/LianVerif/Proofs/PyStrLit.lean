/-
Proofs/PyStrLit.lean — printing followed by reading is the identity, for the two texts `compute_two_states` builds.
Strings: `repr` followed by lexing; printer and lexer meet in `Esc`, and the text `repr(s1) op repr(s2)` evaluates to
Python's `s1 op s2` on the data (`pyEval_quoted`).  Integers: decimal printing followed by tokenising and parsing;
the text `(str(a)) op (str(b))` evaluates to `a op b` (`pyEval_intText`).
-/
import LianVerif.Spec.PyStrLit

namespace LianVerif.PyStrLit

/-- a Python `str`. -/
def Valid (s : Str) : Prop := ∀ c ∈ s, c < 0x110000

/-- no double quote, backslash or line break. -/
def Plain (s : Str) : Prop := ∀ c ∈ s, c ≠ 34 ∧ c ≠ 92 ∧ c ≠ 10 ∧ c ≠ 13

theorem hexVal_hexDigit : ∀ d, d < 16 → hexVal (hexDigit d) = some d := by decide

def hexDigits : Nat → Nat → Str
  | 0, _ => []
  | w + 1, n => hexDigits w (n / 16) ++ [hexDigit (n % 16)]

theorem foldl_hexAcc_hexDigits (w n : Nat) : (hexDigits w n).foldl hexAcc (some 0) = some (n % 16 ^ w) := by
  induction w generalizing n with
  | zero => simp only [hexDigits, List.foldl_nil, Nat.pow_zero, Nat.mod_one]
  | succ w ih =>
    rw [hexDigits, List.foldl_append, ih, Nat.pow_succ, Nat.mul_comm, Nat.mod_mul]
    simp only [List.foldl, hexAcc, hexVal_hexDigit _ (Nat.mod_lt n (by decide))]
    rw [Nat.add_comm, Nat.mul_comm]

theorem hexEsc_hexDigits (w n : Nat) (hw : n < 16 ^ w) (hn : n < 0x110000) : hexEsc (hexDigits w n) = .ok n := by
  simp only [hexEsc, foldl_hexAcc_hexDigits, Nat.mod_eq_of_lt hw, scalar, hn, if_true]

theorem hex2_eq (n : Nat) : hex2 n = hexDigits 2 n := rfl
theorem hex4_eq (n : Nat) : hex4 n = hexDigits 4 n := by
  simp only [hex4, hexDigits, Nat.div_div_eq_div_mul, List.nil_append, List.cons_append]
theorem hex8_eq (n : Nat) : hex8 n = hexDigits 8 n := by
  simp only [hex8, hexDigits, Nat.div_div_eq_div_mul, List.nil_append, List.cons_append]

theorem lexBody_close (q : Nat) (t : Str) : lexBody q false (q :: t) = .ok ([], t) := by
  rw [lexBody.eq_def]; simp

theorem lexBody_plain (q c : Nat) (t : Str) (h1 : c ≠ q) (h2 : c ≠ 10) (h3 : c ≠ 13) (h4 : c ≠ 92) :
    lexBody q false (c :: t) = consR c (lexBody q false t) := by
  rw [lexBody.eq_def]
  simp only [↓reduceIte, h1, h2, h3, h4, or_self]

theorem lexBody_escSelf (q e : Nat) (t : Str) (hq : q ≠ 92) (he : e = 92 ∨ e = 39 ∨ e = 34) :
    lexBody q false (92 :: e :: t) = consR e (lexBody q false t) := by
  rw [lexBody.eq_def]
  simp only [↓reduceIte, hq.symm, he, Nat.reduceEqDiff, or_self]

theorem lexBody_escLetter (q e r : Nat) (t : Str) (hq : q ≠ 92)
    (he : e = 110 ∧ r = 10 ∨ e = 114 ∧ r = 13 ∨ e = 116 ∧ r = 9) :
    lexBody q false (92 :: e :: t) = consR r (lexBody q false t) := by
  rw [lexBody.eq_def]
  rcases he with ⟨rfl, rfl⟩ | ⟨rfl, rfl⟩ | ⟨rfl, rfl⟩ <;>
    simp only [↓reduceIte, hq.symm, Nat.reduceEqDiff, or_self]

theorem lexBody_hex (q k w n : Nat) (t : Str) (hq : q ≠ 92)
    (hk : k = 120 ∧ w = 2 ∨ k = 117 ∧ w = 4 ∨ k = 85 ∧ w = 8) :
    lexBody q false (92 :: k :: (hexDigits w n ++ t)) =
      (hexEsc (hexDigits w n)).bind (fun ch => consR ch (lexBody q false t)) := by
  rcases hk with ⟨rfl, rfl⟩ | ⟨rfl, rfl⟩ | ⟨rfl, rfl⟩
  · rw [lexBody.eq_def]
    simp only [↓reduceIte, hq.symm, Nat.reduceEqDiff, or_self, hexDigits, List.cons_append, List.nil_append]
  · rw [lexBody.eq_def]
    simp only [↓reduceIte, hq.symm, Nat.reduceEqDiff, or_self, hexDigits, List.cons_append, List.nil_append]
  · rw [lexBody.eq_def]
    simp only [↓reduceIte, hq.symm, Nat.reduceEqDiff, or_self, hexDigits, List.cons_append, List.nil_append]

theorem lexString_of_head_ne (q a : Nat) (t : Str) (ha : a ≠ q) :
    lexString q (a :: t) = lexBody q false (a :: t) := by
  unfold lexString
  cases t with
  | nil => rfl
  | cons b t' => simp [ha]

/-- `Esc q e s`: `e` spells `s` between quotes `q`, in the forms `repr` writes. -/
inductive Esc (q : Nat) : Str → Str → Prop
  | nil : Esc q [] []
  | self {c : Nat} {e s : Str} : c = 92 ∨ c = 39 ∨ c = 34 → Esc q e s → Esc q (92 :: c :: e) (c :: s)
  | named {l c : Nat} {e s : Str} : l = 110 ∧ c = 10 ∨ l = 114 ∧ c = 13 ∨ l = 116 ∧ c = 9 → Esc q e s →
      Esc q (92 :: l :: e) (c :: s)
  | plain {c : Nat} {e s : Str} : c ≠ q → c ≠ 10 → c ≠ 13 → c ≠ 92 → Esc q e s → Esc q (c :: e) (c :: s)
  | hex {k w c : Nat} {e s : Str} : k = 120 ∧ w = 2 ∨ k = 117 ∧ w = 4 ∨ k = 85 ∧ w = 8 → c < 16 ^ w →
      c < 0x110000 → Esc q e s → Esc q (92 :: k :: (hexDigits w c ++ e)) (c :: s)

theorem lexBody_esc {q : Nat} (hq : q = 34 ∨ q = 39) {e s : Str} (h : Esc q e s) (rest : Str) :
    lexBody q false (e ++ q :: rest) = .ok (s, rest) := by
  have hq : q ≠ 92 := by rcases hq with rfl | rfl <;> decide
  induction h with
  | nil => exact lexBody_close q rest
  | self hc _ ih => rw [List.cons_append, List.cons_append, lexBody_escSelf q _ _ hq hc, ih]; rfl
  | named hl _ ih => rw [List.cons_append, List.cons_append, lexBody_escLetter q _ _ _ hq hl, ih]; rfl
  | plain h1 h2 h3 h4 _ ih => rw [List.cons_append, lexBody_plain q _ _ h1 h2 h3 h4, ih]; rfl
  | hex hk hw hc _ ih =>
    rw [List.cons_append, List.cons_append, List.append_assoc,
      lexBody_hex q _ _ _ _ hq hk, hexEsc_hexDigits _ _ hw hc, ih]; rfl

theorem Esc.head_ne {q c : Nat} (hq : q = 34 ∨ q = 39) {e s : Str} (h : Esc q e (c :: s)) :
    ∃ a t, e = a :: t ∧ a ≠ q := by
  cases h with
  | plain h1 => exact ⟨c, _, rfl, h1⟩
  | self | named | hex => exact ⟨92, _, rfl, by rcases hq with rfl | rfl <;> decide⟩

theorem lexString_esc {q : Nat} (hq : q = 34 ∨ q = 39) {e s : Str} (h : Esc q e s) (hne : s ≠ []) (rest : Str) :
    lexString q (e ++ q :: rest) = .ok (s, rest) := by
  cases s with
  | nil => exact absurd rfl hne
  | cons c cs =>
    obtain ⟨a, t, rfl, ha⟩ := h.head_ne hq
    rw [List.cons_append, lexString_of_head_ne _ _ _ ha]
    exact lexBody_esc hq h rest

theorem reprQuote_cases (s : Str) : reprQuote s = 34 ∨ reprQuote s = 39 := by
  unfold reprQuote; split <;> simp

theorem esc_reprChar (P : Ch → Bool) {q c : Nat} (hq : q = 34 ∨ q = 39) (hc : c < 0x110000) {e s : Str}
    (h : Esc q e s) : Esc q (reprChar P q c ++ e) (c :: s) := by
  unfold reprChar
  by_cases h0 : c = q ∨ c = 92
  · rw [if_pos h0]
    exact .self (h0.elim (fun hcq => .inr (hcq ▸ hq.symm)) .inl) h
  rw [if_neg h0]
  by_cases h10 : c = 10
  · rw [if_pos h10]; exact .named (.inl ⟨rfl, h10⟩) h
  rw [if_neg h10]
  by_cases h13 : c = 13
  · rw [if_pos h13]; exact .named (.inr (.inl ⟨rfl, h13⟩)) h
  rw [if_neg h13]
  by_cases h9 : c = 9
  · rw [if_pos h9]; exact .named (.inr (.inr ⟨rfl, h9⟩)) h
  rw [if_neg h9]
  by_cases hp : P c = true
  · rw [if_pos hp]; exact .plain (fun h => h0 (.inl h)) h10 h13 (fun h => h0 (.inr h)) h
  rw [if_neg hp]
  by_cases h2 : c < 256
  · rw [if_pos h2, hex2_eq]; exact .hex (.inl ⟨rfl, rfl⟩) h2 hc h
  rw [if_neg h2]
  by_cases h4 : c < 65536
  · rw [if_pos h4, hex4_eq]; exact .hex (.inr (.inl ⟨rfl, rfl⟩)) h4 hc h
  rw [if_neg h4, hex8_eq]; exact .hex (.inr (.inr ⟨rfl, rfl⟩)) (Nat.lt_of_lt_of_le hc (by decide)) hc h

theorem esc_reprBody (P : Ch → Bool) {q : Nat} (hq : q = 34 ∨ q = 39) : ∀ s, Valid s → Esc q (reprBody P q s) s
  | [], _ => .nil
  | c :: cs, hv =>
    esc_reprChar P hq (hv c (List.mem_cons_self ..))
      (esc_reprBody P hq cs (fun x hx => hv x (List.mem_cons_of_mem _ hx)))

theorem esc_plain : ∀ s, Plain s → Esc 34 s s
  | [], _ => .nil
  | c :: cs, hp =>
    have ⟨h1, h2, h3, h4⟩ := hp c (List.mem_cons_self ..)
    .plain h1 h3 h4 h2 (esc_plain cs (fun x hx => hp x (List.mem_cons_of_mem _ hx)))

theorem lexString_repr (P : Ch → Bool) (s rest : Str) (hne : s ≠ []) (hv : Valid s) :
    lexString (reprQuote s) (reprBody P (reprQuote s) s ++ reprQuote s :: rest) = .ok (s, rest) :=
  lexString_esc (reprQuote_cases s) (esc_reprBody P (reprQuote_cases s) s hv) hne rest

theorem lexString_plainStr (s rest : Str) (hne : s ≠ []) (hp : Plain s) :
    lexString 34 (s ++ 34 :: rest) = .ok (s, rest) :=
  lexString_esc (.inl rfl) (esc_plain s hp) hne rest

theorem tokenize_space (f : Nat) (rest : Str) : tokenize (f + 1) (32 :: rest) = tokenize f rest := rfl

theorem tokenize_op (o : Op) (f : Nat) (rest : Str) :
    tokenize (f + 1) (o.text ++ 32 :: rest) = (tokenize f (32 :: rest)).map (Tok.op o :: ·) := by
  cases o <;> rfl

theorem tokenize_quote (f q : Nat) (hq : q = 34 ∨ q = 39) (rest : Str) :
    tokenize (f + 1) (q :: rest) =
      (lexString q rest).bind (fun p => (tokenize f p.2).map (fun ts => Tok.str p.1 :: ts)) := by
  rcases hq with rfl | rfl <;> rfl

theorem tokenize_nil (f : Nat) : tokenize f [] = .ok [] := by
  cases f <;> rfl

/-- fuel 16 = `4 * 3 + 4`: what `pyEval` gives the parser for three tokens. -/
theorem parse_str_op_str (o : Op) (s1 s2 : Str) :
    parseExpr 16 0 [Tok.str s1, Tok.op o, Tok.str s2] = .ok (.bin o (.lit (.str s1)) (.lit (.str s2)), []) := by
  cases o <;> rfl

/-- `n + 5`: five tokeniser steps (quote, blank, operator, blank, quote); `hl` makes the fuel `text.length + 1`
that `pyEval` gives the tokeniser of that form. -/
theorem pyEval_of_str_op_str {text s1 s2 : Str} {o : Op} (hl : 4 ≤ text.length)
    (h : ∀ n, tokenize (n + 5) text = .ok [Tok.str s1, Tok.op o, Tok.str s2]) :
    pyEval text = pyBinop o (.str s1) (.str s2) := by
  obtain ⟨n, hn⟩ : ∃ n, text.length + 1 = n + 5 := Nat.exists_eq_add_of_le' (Nat.succ_le_succ hl)
  unfold pyEval
  rw [hn, h]
  show (parseExpr 16 0 [Tok.str s1, Tok.op o, Tok.str s2]).bind _ = _
  rw [parse_str_op_str]; rfl

/-- any two quote characters, any bodies that spell the data (`Esc`), not only what `repr` writes: the pinned
code's `"s"` is an instance as well (`pyEval_dquoted`). -/
theorem pyEval_quoted {q1 q2 : Nat} (hq1 : q1 = 34 ∨ q1 = 39) (hq2 : q2 = 34 ∨ q2 = 39) {b1 b2 s1 s2 : Str}
    (e1 : Esc q1 b1 s1) (e2 : Esc q2 b2 s2) (h1 : s1 ≠ []) (h2 : s2 ≠ []) (o : Op) :
    pyEval ((q1 :: (b1 ++ [q1])) ++ ((32 :: (o.text ++ [32])) ++ (q2 :: (b2 ++ [q2])))) =
      pyBinop o (.str s1) (.str s2) := by
  refine pyEval_of_str_op_str (by simp only [List.length_append, List.length_cons]; omega) fun n => ?_
  simp only [List.cons_append, List.append_assoc, List.nil_append]
  rw [tokenize_quote _ _ hq1, lexString_esc hq1 e1 h1]
  simp only [R.bind]
  rw [tokenize_space, tokenize_op, tokenize_space, tokenize_quote _ _ hq2, lexString_esc hq2 e2 h2]
  simp only [R.bind, R.map, tokenize_nil]

/-- the text `compute_two_states` builds from two string operands. -/
theorem pyEval_repr (P : Ch → Bool) (o : Op) {s1 s2 : Str} (h1 : s1 ≠ []) (h2 : s2 ≠ []) (v1 : Valid s1)
    (v2 : Valid s2) :
    pyEval (pyRepr P s1 ++ ((32 :: (o.text ++ [32])) ++ pyRepr P s2)) = pyBinop o (.str s1) (.str s2) :=
  pyEval_quoted (reprQuote_cases s1) (reprQuote_cases s2) (esc_reprBody P (reprQuote_cases s1) s1 v1)
    (esc_reprBody P (reprQuote_cases s2) s2 v2) h1 h2 o

/-- the text the pinned `compute_two_states` builds from two string operands: `"s1" op "s2"`. -/
theorem pyEval_dquoted (o : Op) {s1 s2 : Str} (h1 : s1 ≠ []) (h2 : s2 ≠ []) (p1 : Plain s1) (p2 : Plain s2) :
    pyEval ((34 :: (s1 ++ [34])) ++ ((32 :: (o.text ++ [32])) ++ (34 :: (s2 ++ [34])))) =
      pyBinop o (.str s1) (.str s2) :=
  pyEval_quoted (.inl rfl) (.inl rfl) (esc_plain s1 p1) (esc_plain s2 p2) h1 h2 o

theorem div10_lt {n f : Nat} (h : n < f + 1) (h10 : ¬ n < 10) : n / 10 < f := by omega

theorem valRev_natDigitsRev (fuel n : Nat) (h : n < fuel) : valRev (natDigitsRev fuel n) = n := by
  induction fuel generalizing n with
  | zero => exact absurd h (Nat.not_lt_zero n)
  | succ f ih =>
    rw [natDigitsRev]
    split
    · rw [valRev, valRev, Nat.add_sub_cancel_left]; rfl
    · next h10 => rw [valRev, ih (n / 10) (div10_lt h h10), Nat.add_sub_cancel_left, Nat.mod_add_div]

theorem isDigit_iff {c : Nat} : isDigit c = true ↔ 48 ≤ c ∧ c ≤ 57 := by
  simp only [isDigit, Bool.and_eq_true, decide_eq_true_eq]

theorem isDigit_digit {d : Nat} (h : d < 10) : isDigit (48 + d) = true :=
  isDigit_iff.2 ⟨Nat.le_add_right 48 d, Nat.add_le_add_left (Nat.le_of_lt_succ h) 48⟩

theorem isDigit_ne {c k : Nat} (hc : isDigit c = true) (hk : isDigit k = false) : c ≠ k :=
  fun h => Bool.false_ne_true (hk ▸ h ▸ hc)

theorem isDigit_natDigitsRev : ∀ (fuel n : Nat), ∀ c ∈ natDigitsRev fuel n, isDigit c = true
  | 0, _, _, h => nomatch h
  | fuel + 1, n, c, h => by
    simp only [natDigitsRev] at h
    split at h
    · next h10 => rw [List.mem_singleton.1 h]; exact isDigit_digit h10
    · rcases List.mem_cons.1 h with rfl | h
      · exact isDigit_digit (Nat.mod_lt n (by decide))
      · exact isDigit_natDigitsRev fuel _ c h

theorem natDigitsRev_ne_nil (fuel n : Nat) : natDigitsRev (fuel + 1) n ≠ [] := by
  simp only [natDigitsRev]; split <;> simp

theorem natDigitsRev_lead (fuel n : Nat) (h : n < fuel) (hd : (natDigitsRev fuel n).getLast? = some 48) : n = 0 := by
  induction fuel generalizing n with
  | zero => exact absurd h (Nat.not_lt_zero n)
  | succ fuel ih =>
    rw [natDigitsRev] at hd
    by_cases h10 : n < 10
    · rw [if_pos h10] at hd
      exact Nat.add_left_cancel (k := 0) (Option.some.inj hd)
    · have hlt := div10_lt h h10
      obtain ⟨f, rfl⟩ := Nat.exists_eq_add_one_of_ne_zero (Nat.ne_zero_of_lt hlt)
      rw [if_neg h10, List.getLast?_cons_of_ne_nil (natDigitsRev_ne_nil f _)] at hd
      exact absurd (Nat.lt_of_div_eq_zero (by decide) (ih (n / 10) hlt hd)) h10

theorem spanDigits_append : ∀ (ds rest : Str), (∀ c ∈ ds, isDigit c = true) →
    (∀ r ∈ rest.head?, isDigit r = false) → spanDigits (ds ++ rest) = (ds, rest) := by
  intro ds
  induction ds with
  | nil =>
    intro rest _ hr
    cases rest with
    | nil => rfl
    | cons r rs => simp [spanDigits, hr r rfl]
  | cons d ds ih =>
    intro rest hd hr
    have h1 : isDigit d = true := hd d (List.mem_cons_self ..)
    have := ih rest (fun c hc => hd c (List.mem_cons_of_mem _ hc)) hr
    simp [spanDigits, h1, this]

theorem natDigits_digits (n : Nat) : ∀ c ∈ natDigits n, isDigit c = true :=
  fun c hc => isDigit_natDigitsRev _ _ c (List.mem_reverse.1 hc)

theorem natDigits_val (n : Nat) : valRev (natDigits n).reverse = n := by
  rw [natDigits, List.reverse_reverse]
  exact valRev_natDigitsRev _ _ (Nat.lt_succ_self n)

theorem natDigits_cons (n : Nat) : ∃ c cs, natDigits n = c :: cs ∧ (c = 48 → cs = []) := by
  cases hr : natDigits n with
  | nil => exact absurd (List.reverse_eq_nil_iff.1 hr) (natDigitsRev_ne_nil n n)
  | cons c cs =>
    refine ⟨c, cs, rfl, fun h48 => ?_⟩
    have hlast : (natDigitsRev (n + 1) n).getLast? = some 48 := by
      rw [← List.head?_reverse, ← natDigits, hr, h48]; rfl
    rw [natDigitsRev_lead _ n (Nat.lt_succ_self n) hlast] at hr
    exact (List.cons.inj hr).2.symm

theorem tokenize_num (n f : Nat) (rest : Str) (hglue : gluedNext rest = false) :
    tokenize (f + 1) (natDigits n ++ rest) = (tokenize f rest).map (Tok.num n :: ·) := by
  have hrest : ∀ r ∈ rest.head?, isDigit r = false := by
    intro r hr
    cases rest with
    | nil => cases hr
    | cons d t =>
      cases hr
      simp only [gluedNext, isIdentChar, Bool.or_eq_false_iff] at hglue
      exact hglue.1.1.1.2
  obtain ⟨c, cs, hcs, h0⟩ := natDigits_cons n
  have hdig := natDigits_digits n
  have hval := natDigits_val n
  rw [hcs] at hdig hval
  rw [hcs, List.cons_append]
  have hc : isDigit c = true := hdig c (List.mem_cons_self ..)
  have hspan : spanDigits (c :: (cs ++ rest)) = (c :: cs, rest) := spanDigits_append (c :: cs) rest hdig hrest
  have hlead : ¬ (c = 48 ∧ (c :: cs).length > 1 ∧ ¬ ((c :: cs).all (· == 48)) = true) :=
    fun ⟨h48, hlen, _⟩ => by rw [h0 h48] at hlen; exact Nat.lt_irrefl 1 hlen
  show (if c = 32 ∨ c = 9 then _ else if c = 35 then _ else if c = 34 ∨ c = 39 then _ else
    if isDigit c = true then _ else _) = _
  rw [if_neg (not_or.2 ⟨isDigit_ne hc rfl, isDigit_ne hc rfl⟩), if_neg (isDigit_ne hc rfl),
    if_neg (not_or.2 ⟨isDigit_ne hc rfl, isDigit_ne hc rfl⟩), if_pos hc]
  simp only [hspan]
  rw [hglue, if_neg Bool.false_ne_true, if_neg hlead, hval]

theorem tokenize_lpar (f : Nat) (r : Str) : tokenize (f + 1) (40 :: r) = (tokenize f r).map (Tok.lpar :: ·) := rfl

theorem tokenize_rpar (f : Nat) (r : Str) : tokenize (f + 1) (41 :: r) = (tokenize f r).map (Tok.rpar :: ·) := rfl

theorem tokenize_minus_digit (f n : Nat) (r : Str) :
    tokenize (f + 1) (45 :: (natDigits n ++ r)) = (tokenize f (natDigits n ++ r)).map (Tok.op .sub :: ·) := by
  obtain ⟨c, cs, hcs, _⟩ := natDigits_cons n
  have hc : isDigit c = true := natDigits_digits n c (hcs ▸ List.mem_cons_self ..)
  rw [hcs, List.cons_append]
  -- `45` fails every test before the branch of `-`; there the look-ahead for `-=` (61) and `->` (62) fails on a digit
  conv => lhs; whnf
  split
  · next _ _ h => exact absurd (List.cons.inj h).1 (isDigit_ne hc rfl)
  · next _ _ h => exact absurd (List.cons.inj h).1 (isDigit_ne hc rfl)
  · rfl

def intToks (a : Int) : List Tok := if a < 0 then [Tok.op .sub, Tok.num a.natAbs] else [Tok.num a.natAbs]

/-- tokeniser steps `(str(a))` needs. -/
def need (a : Int) : Nat := if a < 0 then 4 else 3

theorem need_le (a : Int) : need a ≤ (intStr a).length + 2 := by
  obtain ⟨c, cs, hcs, _⟩ := natDigits_cons a.natAbs
  unfold need intStr
  rw [hcs]
  split <;> simp only [List.length_cons] <;> exact Nat.le_add_left _ _

theorem tokenize_paren_int (a : Int) (g : Nat) (rest : Str) (ts : List Tok) (h : tokenize g rest = .ok ts) :
    tokenize (g + need a) (40 :: (intStr a ++ 41 :: rest)) = .ok (Tok.lpar :: (intToks a ++ Tok.rpar :: ts)) := by
  unfold need intStr intToks
  split
  · show tokenize (g + 3 + 1) (40 :: (45 :: natDigits a.natAbs ++ 41 :: rest)) = _
    rw [tokenize_lpar]
    show (tokenize (g + 2 + 1) (45 :: (natDigits a.natAbs ++ 41 :: rest))).map _ = _
    rw [tokenize_minus_digit]
    show ((tokenize (g + 1 + 1) (natDigits a.natAbs ++ 41 :: rest)).map _).map _ = _
    rw [tokenize_num _ _ (41 :: rest) rfl, tokenize_rpar, h]
    rfl
  · show tokenize (g + 2 + 1) (40 :: (natDigits a.natAbs ++ 41 :: rest)) = _
    rw [tokenize_lpar]
    show (tokenize (g + 1 + 1) (natDigits a.natAbs ++ 41 :: rest)).map _ = _
    rw [tokenize_num _ _ (41 :: rest) rfl, tokenize_rpar, h]
    rfl

/-- the text `compute_two_states` builds from two integer operands: `(a) op (b)`. -/
def intText (o : Op) (a b : Int) : Str :=
  (40 :: (intStr a ++ [41])) ++ ((32 :: (o.text ++ [32])) ++ (40 :: (intStr b ++ [41])))

theorem tokenize_intText (o : Op) (a b : Int) {fuel : Nat} (hf : need b + 3 + need a ≤ fuel) :
    tokenize fuel (intText o a b) =
      .ok (Tok.lpar :: (intToks a ++ Tok.rpar :: Tok.op o :: Tok.lpar :: (intToks b ++ [Tok.rpar]))) := by
  obtain ⟨f, rfl⟩ := Nat.exists_eq_add_of_le' hf
  rw [← Nat.add_assoc, ← Nat.add_assoc]
  unfold intText
  simp only [List.cons_append, List.append_assoc, List.nil_append]
  apply tokenize_paren_int
  show tokenize (f + need b + 2 + 1) (32 :: (o.text ++ 32 :: 40 :: (intStr b ++ [41]))) = _
  rw [tokenize_space]
  show tokenize (f + need b + 1 + 1) (o.text ++ 32 :: 40 :: (intStr b ++ [41])) = _
  rw [tokenize_op, tokenize_space, tokenize_paren_int b f [] [] (tokenize_nil f)]
  rfl

def intExpr (a : Int) : Expr := if a < 0 then .neg (.lit (.int a.natAbs)) else .lit (.int a.natAbs)

theorem evalExpr_intExpr (a : Int) : evalExpr (intExpr a) = .ok (.int a) := by
  unfold intExpr
  split
  · show R.ok (PyVal.int (-(a.natAbs : Int))) = _
    congr 2; omega
  · show R.ok (PyVal.int (a.natAbs : Int)) = _
    congr 2; omega

/-- fuel 5: parenthesis, expression, sign, expression, number. -/
theorem parseAtom_paren_int (a : Int) (f : Nat) (rest : List Tok) :
    parseAtom (f + 5) (Tok.lpar :: (intToks a ++ Tok.rpar :: rest)) = .ok (intExpr a, rest) := by
  unfold intToks intExpr; split <;> rfl

/-- precedence climbing from level 0 takes any operator; its right operand is the second atom.
Fuel 13: 1 + 5 for the first atom, 1 for the loop, 1 + 5 for the second. -/
theorem parse_intText (o : Op) (a b : Int) {fuel : Nat} (hf : 13 ≤ fuel) :
    parseExpr fuel 0 (Tok.lpar :: (intToks a ++ Tok.rpar :: Tok.op o :: Tok.lpar :: (intToks b ++ [Tok.rpar]))) =
      .ok (.bin o (intExpr a) (intExpr b), []) := by
  obtain ⟨g, rfl⟩ := Nat.exists_eq_add_of_le' hf
  show (parseAtom (g + 7 + 5) (Tok.lpar :: (intToks a ++ Tok.rpar :: _))).bind _ = _
  rw [parseAtom_paren_int]
  show parseLoop (g + 11 + 1) 0 (intExpr a) false (Tok.op o :: Tok.lpar :: (intToks b ++ [Tok.rpar])) = _
  rw [parseLoop, if_neg (Nat.not_lt_zero _), Bool.and_false, if_neg Bool.false_ne_true]
  show ((parseAtom (g + 5 + 5) (Tok.lpar :: (intToks b ++ Tok.rpar :: []))).bind _).bind _ = _
  rw [parseAtom_paren_int]
  rfl

theorem pyEval_intText (o : Op) (a b : Int) :
    pyEval (intText o a b) = pyBinop o (.int a) (.int b) := by
  have hf : need b + 3 + need a ≤ (intText o a b).length + 1 := by
    have ha := need_le a
    have hb := need_le b
    simp only [intText, List.length_append, List.length_cons, List.length_nil]
    omega
  unfold pyEval
  rw [tokenize_intText o a b hf]
  simp only [R.bind]
  rw [parse_intText o a b (by simp only [List.length_cons, List.length_append]; omega)]
  show (evalExpr (intExpr a)).bind (fun x => (evalExpr (intExpr b)).bind (fun y => pyBinop o x y)) = _
  rw [evalExpr_intExpr, evalExpr_intExpr]
  rfl

end LianVerif.PyStrLit
