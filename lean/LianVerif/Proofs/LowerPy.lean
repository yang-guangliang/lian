/-
Simulation of the Python expression handlers on the pure fragment.
-/
import LianVerif.Proofs.LowerSim

namespace LianVerif.LowerPy
open LianVerif.Gir LianVerif.PySrc

def pureFrag : Expr → Bool
  | .const _ => true
  | .name _ => true
  | .bin _ l r => pureFrag l && pureFrag r
  | .un _ e => pureFrag e
  | _ => false

def NoTmp : Expr → Prop
  | .const _ => True
  | .name x => ∀ n, x ≠ tmp n
  | .bin _ l r => NoTmp l ∧ NoTmp r
  | .un _ e => NoTmp e
  | _ => True

theorem evalE_bin {fns : Prog} {f : Nat} {σ σ' : State} {op : String} {l r : Expr} {v : Val}
    (h : evalE fns (f + 1) σ (.bin op l r) = (.ok v, σ')) :
    ∃ a σ1 b σ2, evalE fns f σ l = (.ok a, σ1) ∧ evalE fns f σ1 r = (.ok b, σ2) ∧
      σ2.binop op a b = .ok (v, σ') := by
  simp only [evalE] at h
  split at h
  next => cases h
  next a σ1 hl =>
    split at h
    next => cases h
    next b σ2 hr =>
      split at h
      next hop => cases h; exact ⟨a, σ1, b, σ2, hl, hr, hop⟩
      next => cases h

theorem evalE_un {fns : Prog} {f : Nat} {σ σ' : State} {op : String} {e : Expr} {v : Val}
    (h : evalE fns (f + 1) σ (.un op e) = (.ok v, σ')) :
    ∃ a, evalE fns f σ e = (.ok a, σ') ∧ σ'.unop op a = .ok v := by
  simp only [evalE] at h
  split at h
  next => cases h
  next a σ1 he =>
    split at h
    next hop => cases h; exact ⟨a, he, hop⟩
    next => cases h

theorem evalE_pure_frames (fns : Prog) : ∀ (fuel : Nat) (e : Expr) (σ σ' : State) (v : Val),
    pureFrag e = true → evalE fns fuel σ e = (.ok v, σ') → σ'.frames = σ.frames ∧ σ'.env = σ.env := by
  intro fuel
  induction fuel with
  | zero => intro e σ σ' v _ h; cases h
  | succ f ih =>
    intro e σ σ' v hp h
    cases e with
    | const c => cases h; exact ⟨rfl, rfl⟩
    | name x => cases (Prod.mk.inj h).2; exact ⟨rfl, rfl⟩
    | bin op l r =>
      simp only [pureFrag, Bool.and_eq_true] at hp
      obtain ⟨a, σ1, b, σ2, h1, h2, h3⟩ := evalE_bin h
      obtain ⟨_, _, rfl⟩ := binop_ok h3
      have hl := ih l σ σ1 a hp.1 h1
      have hr := ih r σ1 σ2 b hp.2 h2
      exact ⟨hr.1.trans hl.1, hr.2.trans hl.2⟩
    | un op e1 =>
      obtain ⟨a, h1, _⟩ := evalE_un h
      exact ih e1 σ σ' a hp h1
    | _ => cases hp

theorem lowerE_bin (cfg : Cfg) (op : String) (l r : Expr) (k : Nat) :
    lowerE cfg (.bin op l r) k =
      ((lowerE cfg l k).1 ++ (lowerE cfg r (lowerE cfg l k).2.2).1 ++
        [.assign (tmp ((lowerE cfg r (lowerE cfg l k).2.2).2.2 + 1)) op (lowerE cfg l k).2.1
          (some (lowerE cfg r (lowerE cfg l k).2.2).2.1)],
       .var (tmp ((lowerE cfg r (lowerE cfg l k).2.2).2.2 + 1)), (lowerE cfg r (lowerE cfg l k).2.2).2.2 + 1) := rfl

theorem lowerE_un (cfg : Cfg) (op : String) (e : Expr) (k : Nat) :
    lowerE cfg (.un op e) k =
      ((lowerE cfg e k).1 ++ [.assign (tmp ((lowerE cfg e k).2.2 + 1)) op (lowerE cfg e k).2.1 none],
       .var (tmp ((lowerE cfg e k).2.2 + 1)), (lowerE cfg e k).2.2 + 1) := rfl

theorem lowerE_sim (cfg : Cfg) (fns : Prog) : ∀ (fuel : Nat) (e : Expr), pureFrag e = true → NoTmp e →
    ∀ (k : Nat) {σ τ σ' : State} {v : Val}, evalE fns fuel σ e = (.ok v, σ') → Sim σ τ →
    ∃ τ', Computes (lowerE cfg e k).1 (lowerE cfg e k).2.1 k (lowerE cfg e k).2.2 τ τ' σ' v := by
  intro fuel
  induction fuel with
  | zero => intro e _ _ k σ τ σ' v h _; cases h
  | succ f ih =>
    intro e hp hnt k σ τ σ' v h hs
    cases e with
    | const c => cases h; exact ⟨τ, .atom hs rfl nofun⟩
    | name x =>
      obtain ⟨hl, rfl⟩ := Prod.mk.inj h
      exact ⟨τ, .atom hs ((hs.look x hnt).symm.trans hl) fun j e => hnt j (Opd.var.inj e)⟩
    | bin op l r =>
      simp only [pureFrag, Bool.and_eq_true] at hp
      obtain ⟨a, σ1, b, σ2, h1, h2, h3⟩ := evalE_bin h
      obtain ⟨h', hop, rfl⟩ := binop_ok h3
      obtain ⟨τ1, c1⟩ := ih l hp.1 hnt.1 k h1 hs
      obtain ⟨τ2, c2⟩ := ih r hp.2 hnt.2 _ h2 c1.sim
      rw [lowerE_bin]
      exact c1.bin c2 hop
    | un op e1 =>
      obtain ⟨a, h1, hop⟩ := evalE_un h
      obtain ⟨τ1, c1⟩ := ih e1 hp hnt k h1 hs
      rw [lowerE_un]
      exact c1.un (unopH_ne_empty hop) hop
    | _ => cases hp

end LianVerif.LowerPy
