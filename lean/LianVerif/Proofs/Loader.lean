/-
C15 (GeneralLoader): the representation invariant tying the loader state to the "latest save wins"
map, and its preservation by every operation of the repaired code.
-/
import LianVerif.Model.Loader
import LianVerif.Spec.LoaderSpec
import LianVerif.Proofs.Lru

namespace LianVerif.Loader
open LianVerif.Lru LianVerif.LoaderSpec

variable {K R : Type} [DecidableEq K]

def rowsOf (k : K) (items : Bundle K R) : List R := (alookup k items).getD []

/-- What is held for `k`, by the three cases of `get`.  With `g = false` an id indexed as active is in
the active bundle; `g = true` admits the exception, which arises only when a loader that held items
without rows is reopened. -/
inductive Holds (g : Bool) (s : L K R) (k : K) (e : Option (List R)) : Prop
  | absent (hi : alookup k s.index = none) (he : e = none)
  | active (hi : alookup k s.index = some none) (he : e = some (rowsOf k s.active))
      (hg : alookup k s.active = none → g = true)
  | file (b : Nat) (bf : BFile K R) (hi : alookup k s.index = some (some b)) (hb : b < s.bundleCount)
      (hd : alookup b s.disk = some (some bf)) (hc : bf.cols = true) (he : e = some (rowsOf k bf.items))

theorem Holds.frame {g : Bool} {s s' : L K R} {k : K} {e : Option (List R)} (h : Holds g s k e)
    (hi : alookup k s'.index = alookup k s.index) (ha : alookup k s'.active = alookup k s.active)
    (hc : s.bundleCount ≤ s'.bundleCount)
    (hd : ∀ b bf, alookup b s.disk = some (some bf) →
      ∃ bf', alookup b s'.disk = some (some bf') ∧ bf'.cols = bf.cols ∧ rowsOf k bf'.items = rowsOf k bf.items) :
    Holds g s' k e := by
  rcases h with ⟨h1, he⟩ | ⟨h1, he, hg⟩ | ⟨b, bf, h1, hb, h2, h3, he⟩
  · exact .absent (hi.trans h1) he
  · exact .active (hi.trans h1) (by rw [he, rowsOf, rowsOf, ha]) fun h' => hg (ha.symm.trans h')
  · obtain ⟨bf', d1, d2, d3⟩ := hd _ bf h2
    exact .file b bf' (hi.trans h1) (Nat.lt_of_lt_of_le hb hc) d1 (d2 ▸ h3) (d3 ▸ he)

theorem Holds.of_eq {g : Bool} {s s' : L K R} {k : K} {e : Option (List R)} (h : Holds g s k e)
    (hi : s'.index = s.index) (ha : s'.active = s.active) (hc : s'.bundleCount = s.bundleCount)
    (hd : s'.disk = s.disk) : Holds g s' k e :=
  h.frame (by rw [hi]) (by rw [ha]) (Nat.le_of_eq hc.symm) fun b bf hb => ⟨bf, by rw [hd, hb], rfl, rfl⟩

/-- the shape of every branch of `remove_unit_id` (a file may be rewritten without the rows of `k`) -/
theorem Holds.erase {g : Bool} {s s' : L K R} {m : Spec K R} {k : K} (h : ∀ k', Holds g s k' (m k'))
    (hi : ∀ k', alookup k' s'.index = if k' = k then none else alookup k' s.index)
    (ha : ∀ k', k' ≠ k → alookup k' s'.active = alookup k' s.active)
    (hc : s.bundleCount ≤ s'.bundleCount)
    (hd : ∀ b bf, alookup b s.disk = some (some bf) → ∃ bf', alookup b s'.disk = some (some bf') ∧
      bf'.cols = bf.cols ∧ ∀ k', k' ≠ k → rowsOf k' bf'.items = rowsOf k' bf.items) (k' : K) :
    Holds g s' k' (upd m k none k') := by
  by_cases e : k' = k
  · exact .absent ((hi k').trans (if_pos e)) (if_pos e)
  · rw [upd, if_neg e]
    refine (h k').frame ((hi k').trans (if_neg e)) (ha k' e) hc fun b bf hb => ?_
    obtain ⟨bf', h1, h2, h3⟩ := hd b bf hb
    exact ⟨bf', h1, h2, h3 k' e⟩

/-- `contain` is exact -/
theorem Holds.isSome {g : Bool} {s : L K R} {k : K} {e : Option (List R)} (h : Holds g s k e) :
    (alookup k s.index).isSome = e.isSome := by
  rcases h with ⟨hi, he⟩ | ⟨hi, he, _⟩ | ⟨_, _, hi, _, _, _, he⟩ <;> rw [hi, he] <;> rfl

theorem gotOk_mono {e : Option (List R)} {x : Got R} (g : Bool) (h : GotOk false e x) : GotOk g e x := by
  match e, h with
  | none, h => exact h
  | some [], .inl h => exact .inl h
  | some [], .inr (.inl h) => exact .inr (.inl h)
  | some (_ :: _), h => exact h

theorem gotOk_item (g : Bool) (rows : List R) : GotOk g (some rows) (.item rows) := by
  cases rows with
  | nil => exact .inl rfl
  | cons => exact rfl

theorem gotOk_query (g : Bool) (k : K) (items : Bundle K R) :
    GotOk g (some (rowsOf k items)) (query k items).toGot := by
  unfold query rowsOf
  cases alookup k items with
  | none => exact .inr (.inl rfl)
  | some rows =>
    cases rows with
    | nil => exact .inr (.inl rfl)
    | cons => exact rfl

structure Inv (g : Bool) (s : L K R) (m : Spec K R) : Prop where
  holds : ∀ k, Holds g s k (m k)
  bc_ok : ∀ p ∈ s.bundleCache.items, alookup p.1 s.disk = some (some p.2) ∧ p.1 < s.bundleCount
  ic_ok : ∀ p ∈ s.itemCache.items, GotOk false (m p.1) p.2.toGot
  len_ok : s.activeLen = rowsSum s.active
  active_nodup : (akeys s.active).Nodup
  index_nodup : (akeys s.index).Nodup

variable {g : Bool} {s : L K R} {m : Spec K R}

theorem inv_init (g : Bool) (cfg : Cfg K R) : Inv g (L.init cfg) (Spec.empty : Spec K R) :=
  ⟨fun _ => .absent rfl rfl, fun _ h => (nomatch h), fun _ h => (nomatch h), rfl, List.nodup_nil, List.nodup_nil⟩

theorem Inv.with_itemCache (h : Inv g s m) (c : Lru K (CacheVal R))
    (hc : ∀ p ∈ c.items, GotOk false (m p.1) p.2.toGot) : Inv g { s with itemCache := c } m :=
  { h with holds := fun k => (h.holds k).of_eq rfl rfl rfl rfl, ic_ok := hc }

theorem Inv.put_itemCache (h : Inv g s m) (k : K) (cv : CacheVal R)
    (hcv : GotOk false (m k) cv.toGot) : Inv g { s with itemCache := s.itemCache.put k cv } m :=
  h.with_itemCache _ (Lru.forall_mem_put hcv h.ic_ok)

theorem Inv.ic_remove (h : Inv g s m) (k : K) (v : Option (List R)) :
    ∀ p ∈ (s.itemCache.remove k).items, GotOk false (upd m k v p.1) p.2.toGot := fun p hp => by
  obtain ⟨hp', hne⟩ := Lru.mem_remove.1 hp
  rw [upd, if_neg hne]; exact h.ic_ok p hp'

theorem Inv.with_bundleCache (h : Inv g s m) (c : Lru Nat (BFile K R))
    (hc : ∀ p ∈ c.items, alookup p.1 s.disk = some (some p.2) ∧ p.1 < s.bundleCount) :
    Inv g { s with bundleCache := c } m :=
  { h with holds := fun k => (h.holds k).of_eq rfl rfl rfl rfl, bc_ok := hc }

theorem Inv.rowsOf_active (h : Inv g s m) (h0 : s.activeLen = 0) (k : K) : rowsOf k s.active = [] := by
  unfold rowsOf
  cases ha : alookup k s.active with
  | none => rfl
  | some rows => rw [rows_nil_of_rowsSum_zero (h.len_ok ▸ h0) ha]; rfl

theorem loadBundle_ok (h : Inv g s m) {b : Nat} {bf : BFile K R}
    (hd : alookup b s.disk = some (some bf)) (hb : b < s.bundleCount) :
    ∃ c, loadBundle s b = some ({ s with bundleCache := c }, bf) ∧ Inv g { s with bundleCache := c } m := by
  unfold loadBundle
  by_cases hc : s.bundleCache.contain b = true
  · obtain ⟨v, hv⟩ := Lru.contain_iff.1 hc
    have e : v = bf := by
      have := (h.bc_ok _ (Lru.lookup_mem hv)).1
      rw [hd] at this; cases this; rfl
    rw [if_pos hc]
    simp only [Lru.get_snd, hv, e]
    exact ⟨_, rfl, h.with_bundleCache _ fun p hp => h.bc_ok p (Lru.mem_get hp)⟩
  · rw [if_neg hc]
    simp only [hd]
    exact ⟨_, rfl, h.with_bundleCache _ (Lru.forall_mem_put ⟨hd, hb⟩ h.bc_ok)⟩

theorem get_ok (cfg : Cfg K R) (hq : cfg.queryOk = true)
    (h : Inv g s m) (k : K) : Inv g (get cfg s k).1 m ∧ GotOk g (m k) (get cfg s k).2 := by
  unfold get
  by_cases hc : s.itemCache.contain k = true
  · obtain ⟨v, hv⟩ := Lru.contain_iff.1 hc
    rw [if_pos hc]
    simp only [Lru.get_snd, hv]
    exact ⟨h.with_itemCache _ fun p hp => h.ic_ok p (Lru.mem_get hp), gotOk_mono g (h.ic_ok _ (Lru.lookup_mem hv))⟩
  · rw [if_neg hc]
    rcases h.holds k with ⟨hi, hm⟩ | ⟨hi, hm, hg⟩ | ⟨b, bf, hi, hb, hd, hcols, hm⟩ <;> rw [hi, hm]
    · exact ⟨h, rfl⟩
    · unfold rowsOf at hm ⊢
      cases ha : alookup k s.active with
      | some rows =>
        rw [ha] at hm
        exact ⟨h.put_itemCache k _ (hm ▸ gotOk_item false rows), gotOk_item g rows⟩
      | none =>
        obtain rfl := hg ha
        exact ⟨h, .inr (.inr ⟨rfl, rfl⟩)⟩
    · obtain ⟨c, hl, h1⟩ := loadBundle_ok h hd hb
      simp only [hl, hq, hcols, Bool.and_self, if_true]
      exact ⟨h1.put_itemCache k _ (hm ▸ gotOk_query false k bf.items), gotOk_query g k bf.items⟩

theorem export_ok (cfg : Cfg K R) (hw : ∀ b, cfg.writable b = true)
    (h : Inv g s m) : Inv g (doExport cfg s) m ∧ (doExport cfg s).activeLen = 0 := by
  unfold doExport
  by_cases hpos : s.activeLen > 0
  · have hany : s.active.any (fun p => !p.2.isEmpty) = true :=
      any_nonempty_of_rowsSum_pos (h.len_ok ▸ hpos)
    have hkeys : ∀ p : K × Option Nat, (if p.2 = none then (p.1, some s.bundleCount) else p).1 = p.1 :=
      fun p => by split <;> rfl
    have hold : ∀ b x, b < s.bundleCount → alookup b (aset s.bundleCount x s.disk) = alookup b s.disk :=
      fun b x hb => by rw [alookup_aset, if_neg (Nat.ne_of_lt hb)]
    simp only [hpos, if_true, hw]
    refine ⟨⟨fun k => ?_, fun p hp => ?_, h.ic_ok, rfl, List.nodup_nil, ?_⟩, trivial⟩
    · have hidx := alookup_map _ hkeys k s.index
      rcases h.holds k with ⟨hi, he⟩ | ⟨hi, he, _⟩ | ⟨b, bf, hi, hb, hd, hcols, he⟩ <;> rw [hi] at hidx
      · exact .absent hidx he
      · exact .file _ ⟨_, s.active⟩ hidx (Nat.lt_succ_self _) (by rw [alookup_aset, if_pos rfl]) (by simp [hany]) he
      · exact .file b bf hidx (Nat.lt_succ_of_lt hb) ((hold b _ hb).trans hd) hcols he
    · have old : ∀ q ∈ s.bundleCache.items, ∀ x,
          alookup q.1 (aset s.bundleCount x s.disk) = some (some q.2) ∧ q.1 < s.bundleCount + 1 := fun q hq x =>
        ⟨(hold _ x (h.bc_ok q hq).2).trans (h.bc_ok q hq).1, Nat.lt_succ_of_lt (h.bc_ok q hq).2⟩
      dsimp only at hp ⊢
      by_cases hce : cfg.cachesExported = true
      · rw [if_pos hce] at hp
        exact Lru.forall_mem_put ⟨by rw [alookup_aset, if_pos rfl], Nat.lt_succ_self _⟩ (fun q hq => old q hq _) p hp
      · rw [if_neg hce] at hp
        exact old p hp _
    · rw [akeys_map _ hkeys]; exact h.index_nodup
  · rw [if_neg hpos]
    exact ⟨h, Nat.eq_zero_of_not_pos hpos⟩

theorem activeRows_eq (s : L K R) (k : K) : activeRows s k = oldLen k s.active := rfl

def savePre (s : L K R) (k : K) (rows : List R) : L K R :=
  { s with itemCache := s.itemCache.remove k, active := aset k rows s.active, index := aset k none s.index,
           activeLen := s.activeLen - activeRows s k + rows.length }

theorem save_eq (cfg : Cfg K R) (s : L K R) (k : K) (rows : List R) :
    save cfg s k rows = if (savePre s k rows).activeLen > cfg.maxRows then doExport cfg (savePre s k rows) else savePre s k rows := rfl

theorem savePre_ok (h : Inv g s m) (k : K) (rows : List R) :
    Inv g (savePre s k rows) (upd m k (some rows)) where
  holds k' := by
    by_cases e : k' = k
    · rw [e]
      have hi : alookup k (savePre s k rows).index = some none := (alookup_aset k k none s.index).trans (if_pos rfl)
      have ha : alookup k (savePre s k rows).active = some rows := (alookup_aset k k rows s.active).trans (if_pos rfl)
      exact .active hi (by rw [upd, if_pos rfl, rowsOf, ha]; rfl) fun h' => nomatch ha.symm.trans h'
    · rw [upd, if_neg e]
      exact (h.holds k').frame (by simp [savePre, alookup_aset, e]) (by simp [savePre, alookup_aset, e])
        (Nat.le_refl _) fun b bf hb => ⟨bf, hb, rfl, rfl⟩
  bc_ok := h.bc_ok
  ic_ok := h.ic_remove k _
  len_ok := by
    simp only [savePre, activeRows_eq, h.len_ok]
    rw [← Nat.sub_add_comm (oldLen_le_rowsSum k s.active)]
    exact Nat.sub_eq_of_eq_add (rowsSum_aset k rows s.active).symm
  active_nodup := nodup_aset h.active_nodup
  index_nodup := nodup_aset h.index_nodup

theorem save_ok (cfg : Cfg K R) (hw : ∀ b, cfg.writable b = true)
    (h : Inv g s m) (k : K) (rows : List R) : Inv g (save cfg s k rows) (upd m k (some rows)) := by
  rw [save_eq]
  by_cases hlim : (savePre s k rows).activeLen > cfg.maxRows
  · rw [if_pos hlim]; exact (export_ok cfg hw (savePre_ok h k rows)).1
  · rw [if_neg hlim]; exact savePre_ok h k rows

theorem removeUnit_ok (cfg : Cfg K R) (hw : ∀ b, cfg.writable b = true)
    (h : Inv g s m) (k : K) :
    Inv g (removeUnit cfg s k).1 (upd m k none) ∧ (removeUnit cfg s k).2 = .ok := by
  have hic := h.ic_remove k none
  have hidx := fun k' => alookup_aerase k k' s.index
  have hdisk : ∀ b bf, alookup b s.disk = some (some bf) → ∃ bf', alookup b s.disk = some (some bf') ∧
      bf'.cols = bf.cols ∧ ∀ k', k' ≠ k → rowsOf k' bf'.items = rowsOf k' bf.items :=
    fun b bf hb => ⟨bf, hb, rfl, fun _ _ => rfl⟩
  rcases h.holds k with ⟨hi, _⟩ | ⟨hi, _, _⟩ | ⟨n, bf, hi, _, hd, hcols, _⟩
  · simp only [removeUnit, removeUnitWith, hi]
    refine ⟨⟨Holds.erase h.holds (fun k' => ?_) (fun _ _ => rfl) (Nat.le_refl _) hdisk, h.bc_ok, hic, h.len_ok,
      h.active_nodup, h.index_nodup⟩, trivial⟩
    by_cases e : k' = k
    · rw [if_pos e, e, hi]
    · rw [if_neg e]
  · simp only [removeUnit, removeUnitWith, hi]
    by_cases ha : (alookup k s.active).isSome = true
    · rw [if_pos ha]
      refine ⟨⟨Holds.erase h.holds hidx (fun k' e => (alookup_aerase k k' s.active).trans (if_neg e))
        (Nat.le_refl _) hdisk, h.bc_ok, hic, ?_, nodup_aerase h.active_nodup, nodup_aerase h.index_nodup⟩, rfl⟩
      simp only [activeRows_eq, if_true, h.len_ok]
      exact Nat.sub_eq_of_eq_add (rowsSum_aerase h.active_nodup).symm
    · rw [if_neg ha]
      exact ⟨⟨Holds.erase h.holds hidx (fun _ _ => rfl) (Nat.le_refl _) hdisk, h.bc_ok, hic, h.len_ok,
        h.active_nodup, nodup_aerase h.index_nodup⟩, rfl⟩
  · simp only [removeUnit, removeUnitWith, hi, hd, hcols, if_true, hw]
    refine ⟨⟨Holds.erase h.holds hidx (fun _ _ => rfl) (Nat.le_refl _) fun b bf' hb => ?_, fun p hp => ?_, hic,
      h.len_ok, h.active_nodup, nodup_aerase h.index_nodup⟩, trivial⟩
    · by_cases eb : b = n
      · subst eb
        cases hd.symm.trans hb
        exact ⟨_, (alookup_aset b b _ s.disk).trans (if_pos rfl), hcols.symm, fun k' e => by
          simp only [rowsOf, alookup_aerase, if_neg e]⟩
      · exact ⟨bf', by rw [alookup_aset, if_neg eb, hb], rfl, fun _ _ => rfl⟩
    · obtain ⟨hp', hne⟩ := Lru.mem_remove.1 hp
      rw [alookup_aset, if_neg hne]; exact h.bc_ok p hp'

/-- `restore` rebuilds the index row by row and sets `bundleCount` to the maximum of `bNext` (one past
the bundle number a row names): every file an index row points at is then numbered below
`bundleCount`, which is what `Holds.file` asks after a reopen. -/
theorem restore_fold (rows : List (K × Option Nat)) : ∀ acc : L K R, (akeys (acc.index ++ rows)).Nodup →
    ∃ c, rows.foldl restoreStep acc = { acc with index := acc.index ++ rows, bundleCount := c } ∧
      acc.bundleCount ≤ c ∧ ∀ p ∈ rows, bNext p.2 ≤ c := by
  induction rows with
  | nil => intro acc _; exact ⟨_, by rw [List.append_nil]; rfl, Nat.le_refl _, fun _ hp => (nomatch hp)⟩
  | cons p l ih =>
    intro acc hn
    have hp : p.1 ∉ akeys acc.index := fun hm => by
      simp only [akeys, List.map_append, List.map_cons] at hn
      exact (List.nodup_append.1 hn).2.2 _ hm _ List.mem_cons_self rfl
    have hstep : (restoreStep acc p).index = acc.index ++ [p] := aset_of_not_mem hp p.2
    obtain ⟨c, hc, hle, hall⟩ := ih (restoreStep acc p) (by rw [hstep, List.append_assoc]; exact hn)
    refine ⟨c, ?_, Nat.le_trans (Nat.le_max_left _ _) hle, fun q hq => ?_⟩
    · rw [List.foldl_cons, hc, hstep, List.append_assoc]; rfl
    · rcases List.mem_cons.1 hq with rfl | hq
      · exact Nat.le_trans (Nat.le_max_right _ _) hle
      · exact hall q hq

theorem restore_exportIndexing (cfg : Cfg K R) (s1 : L K R) (hn : (akeys s1.index).Nodup) :
    ∃ c, restore cfg (exportIndexing s1) =
        { L.init cfg with disk := s1.disk, diskIndex := some s1.index, log := s1.log,
                          index := s1.index, bundleCount := c } ∧
      ∀ p ∈ s1.index, bNext p.2 ≤ c := by
  obtain ⟨c, hc, _, hall⟩ := restore_fold s1.index
    ({ L.init cfg with disk := s1.disk, diskIndex := some s1.index, log := s1.log } : L K R) hn
  exact ⟨c, hc, hall⟩

theorem reopen_ok (cfg : Cfg K R) (hw : ∀ b, cfg.writable b = true)
    (h : Inv g s m) : Inv true (restore cfg (exportIndexing (doExport cfg s))) m := by
  obtain ⟨h1, hlen⟩ := export_ok cfg hw h
  generalize doExport cfg s = s1 at h1 hlen
  obtain ⟨c, hr, hall⟩ := restore_exportIndexing cfg s1 h1.index_nodup
  rw [hr]
  refine ⟨fun k => ?_, fun _ hp => (nomatch hp), fun _ hp => (nomatch hp), rfl, List.nodup_nil, h1.index_nodup⟩
  rcases h1.holds k with ⟨hi, he⟩ | ⟨hi, he, _⟩ | ⟨b, bf, hi, _, hd, hcols, he⟩
  · exact .absent hi he
  · exact .active hi (he.trans (congrArg some (h1.rowsOf_active hlen k))) fun _ => rfl
  · exact .file b bf hi (hall _ (alookup_mem hi)) hd hcols he

/-- `reopen` is the step that may leave an id indexed as active outside the active bundle.  A bare `restore`
is excluded: it reads whatever index file the last `export_indexing` left, which later saves have outdated. -/
theorem step_ok (cfg : Cfg K R) (hw : ∀ b, cfg.writable b = true) (hq : cfg.queryOk = true)
    (h : Inv g s m) (op : Op K R) (hop : op ≠ .restore) (hre : g = false → op ≠ .reopen) :
    Inv g (step cfg s op).1 (specStep m op) ∧ OutOk g m op (step cfg s op).2 := by
  cases op with
  | save k rows => exact ⟨save_ok cfg hw h k rows, trivial⟩
  | get k => exact get_ok cfg hq h k
  | contain k =>
    exact ⟨h, (h.holds k).isSome⟩
  | exp => exact ⟨(export_ok cfg hw h).1, trivial⟩
  | exportIndexing => exact ⟨{ h with holds := fun k => (h.holds k).of_eq rfl rfl rfl rfl }, trivial⟩
  | removeUnit k => exact removeUnit_ok cfg hw h k
  | restore => exact absurd rfl hop
  | reopen =>
    cases g with
    | false => exact absurd rfl (hre rfl)
    | true => exact ⟨reopen_ok cfg hw h, trivial⟩

omit [DecidableEq K] in
theorem noRestore_mem {ops : List (Op K R)} : noRestore ops = true → ∀ op ∈ ops, op ≠ .restore := by
  fun_induction noRestore ops with
  | case1 => nofun
  | case2 => nofun
  | case3 o ops hne ih =>
    intro h op hop
    rcases List.mem_cons.1 hop with rfl | hop
    · exact hne
    · exact ih h op hop

omit [DecidableEq K] in
theorem noReopen_mem {ops : List (Op K R)} :
    noReopen ops = true → ∀ op ∈ ops, op ≠ .restore ∧ op ≠ .reopen := by
  fun_induction noReopen ops with
  | case1 => nofun
  | case2 => nofun
  | case3 => nofun
  | case4 o ops hne hne' ih =>
    intro h op hop
    rcases List.mem_cons.1 hop with rfl | hop
    · exact ⟨hne, hne'⟩
    · exact ih h op hop

theorem run_ok (cfg : Cfg K R) (hw : ∀ b, cfg.writable b = true) (hq : cfg.queryOk = true)
    (ops : List (Op K R)) : ∀ (s : L K R) (m : Spec K R), Inv g s m →
      (∀ op ∈ ops, op ≠ .restore ∧ (g = false → op ≠ .reopen)) →
      Inv g (run (step cfg) s ops).1 (specRun m ops) ∧ RunOk g m ops (run (step cfg) s ops).2 := by
  induction ops with
  | nil => intro s m h _; exact ⟨h, trivial⟩
  | cons op ops ih =>
    intro s m h hn
    obtain ⟨⟨hop, hre⟩, hn'⟩ := List.forall_mem_cons.1 hn
    obtain ⟨h1, o1⟩ := step_ok cfg hw hq h op hop hre
    exact (ih _ _ h1 hn').imp_right fun r => ⟨o1, r⟩

theorem specRun_append_reopen (ops : List (Op K R)) (m : Spec K R) :
    specRun m (ops ++ [.reopen]) = specRun m ops := by
  induction ops generalizing m with
  | nil => rfl
  | cons op ops ih => exact ih _

end LianVerif.Loader
