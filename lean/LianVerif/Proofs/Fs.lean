/-
Lemmas about the abstract file system (Spec/Fs.lean).  `lookup_filter` is the frame rule every
lookup-after-mutation lemma comes from.  A successful kernel path walk is a derivation (`Walk`); the
facts the C18 proofs rest on (`resolveDir_ext`, `resolveDir_inside`, `resolveDir_phys`) are inductions
over it.
-/
import LianVerif.Spec.Fs

namespace LianVerif.Fs

variable {fs : FS}

def Below (w p : Path) : Prop := w <+: p ∧ p ≠ w

theorem Below.prefix {w p : Path} (h : Below w p) : w <+: p := h.1

theorem Below.length_lt {w p : Path} (h : Below w p) : w.length < p.length :=
  Nat.lt_of_le_of_ne h.1.length_le fun e => h.2 (h.1.eq_of_length e).symm

theorem Below.ne_nil {w p : Path} (h : Below w p) : p ≠ [] := by
  intro e; have := h.length_lt; simp [e] at this

theorem not_below_self (w : Path) : ¬ Below w w := fun h => h.2 rfl

theorem below_of_length_lt {w p : Path} (h : w <+: p) (hl : w.length < p.length) : Below w p :=
  ⟨h, fun e => Nat.ne_of_gt hl (congrArg List.length e)⟩

theorem Below.trans_prefix {a b c : Path} (h1 : Below a b) (h2 : b <+: c) : Below a c :=
  below_of_length_lt (h1.1.trans h2) (Nat.lt_of_lt_of_le h1.length_lt h2.length_le)

theorem below_append_singleton {w p : Path} (h : w <+: p) (c : String) : Below w (p ++ [c]) :=
  below_of_length_lt (h.trans (List.prefix_append _ _))
    (by rw [List.length_append]; exact Nat.lt_succ_of_le h.length_le)

theorem prefix_dropLast_of_below {w p : Path} (h : Below w p) : w <+: p.dropLast := by
  obtain ⟨r, rfl⟩ := h.1
  have hr : r ≠ [] := fun e => h.2 (by simp [e])
  rw [List.dropLast_append_of_ne_nil hr]
  exact List.prefix_append _ _

theorem isPrefixOf_eq_false {a b : Path} (h : ¬ a <+: b) : a.isPrefixOf b = false := by
  rw [Bool.eq_false_iff]; exact fun hp => h (List.isPrefixOf_iff_prefix.1 hp)

theorem Below.child {W p : Path} (h : Below W p) : ∃ n, (W ++ [n]) <+: p := by
  obtain ⟨r, rfl⟩ := h.1
  match r, h.2 with
  | [], h2 => exact absurd (by simp) h2
  | n :: r, _ => exact ⟨n, r, by simp⟩

theorem lookup_nil (fs : FS) : lookup fs [] = some .dir := rfl

theorem lookup_cons (fs : FS) (c : String) (p : Path) :
    lookup fs (c :: p) = (fs.find? (fun e => e.1 == c :: p)).map (·.2) := rfl

theorem lookup_of_ne_nil (fs : FS) {p : Path} (h : p ≠ []) :
    lookup fs p = (fs.find? (fun e => e.1 == p)).map (·.2) := by
  cases p with
  | nil => exact absurd rfl h
  | cons c p => rfl

theorem lookup_filter (fs : FS) (P : Path → Bool) {q : Path} (hq : q ≠ []) :
    lookup (fs.filter (fun e => P e.1)) q = if P q then lookup fs q else none := by
  rw [lookup_of_ne_nil _ hq, lookup_of_ne_nil _ hq, List.find?_filter]
  by_cases hP : P q = true
  · rw [if_pos hP]
    congr 2
    funext e
    by_cases he : e.1 = q <;> simp [he, hP]
  · rw [if_neg hP, List.find?_eq_none.2, Option.map_none]
    intro e _
    by_cases he : e.1 = q <;> simp [he, hP]

theorem lookup_filter_of_true (fs : FS) (P : Path → Bool) {q : Path} (h : q ≠ [] → P q = true) :
    lookup (fs.filter (fun e => P e.1)) q = lookup fs q := by
  by_cases hq : q = []
  · subst hq; rfl
  · rw [lookup_filter _ _ hq, h hq]; rfl

theorem lookup_remove (fs : FS) (p : Path) {q : Path} (hq : q ≠ []) :
    lookup (remove fs p) q = if q = p then none else lookup fs q := by
  rw [remove, lookup_filter fs (fun x => !(x == p)) hq]
  by_cases h : q = p <;> simp [h]

theorem lookup_remove_ne (fs : FS) (p : Path) {q : Path} (h : q ≠ p) :
    lookup (remove fs p) q = lookup fs q :=
  lookup_filter_of_true fs (fun x => !(x == p)) (fun _ => by simpa using h)

theorem mem_removeTree {q : Path} {e : Path × Node} :
    e ∈ removeTree fs q ↔ e ∈ fs ∧ ¬ q <+: e.1 := by
  rw [removeTree, List.mem_filter, Bool.not_eq_true', ← Bool.not_eq_true, List.isPrefixOf_iff_prefix]

theorem lookup_removeTree {q p : Path} (h : ¬ q <+: p) : lookup (removeTree fs q) p = lookup fs p :=
  lookup_filter_of_true fs (fun x => !(q.isPrefixOf x)) fun _ => by rw [isPrefixOf_eq_false h]; rfl

theorem remove_eq_removeTree {q : Path} (hno : ∀ e ∈ fs, ¬ Below q e.1) :
    remove fs q = removeTree fs q := by
  refine List.filter_congr fun e he => ?_
  by_cases hq : e.1 = q
  · simp [hq]
  · simp [hq, isPrefixOf_eq_false fun hp => hno e he ⟨hp, hq⟩]

theorem lookup_setNode (fs : FS) (p : Path) (n : Node) {q : Path} (hq : q ≠ []) :
    lookup (setNode fs p n) q = if q = p then some n else lookup fs q := by
  rw [setNode, lookup_of_ne_nil _ hq, List.find?_append, Option.map_or, ← lookup_of_ne_nil _ hq,
    lookup_remove _ _ hq]
  by_cases h : q = p
  · subst h; simp
  · have : (p == q) = false := by simpa using Ne.symm h
    cases lookup fs q <;> simp [h, this]

theorem lookup_setNode_self (fs : FS) {p : Path} (n : Node) (hp : p ≠ []) :
    lookup (setNode fs p n) p = some n := by
  rw [lookup_setNode _ _ _ hp]; simp

theorem lookup_setNode_ne (fs : FS) (p : Path) (n : Node) {q : Path} (h : q ≠ p) :
    lookup (setNode fs p n) q = lookup fs q := by
  by_cases hq : q = []
  · subst hq; rfl
  · rw [lookup_setNode _ _ _ hq]; simp [h]

theorem lookup_ne_none_of_mem {e : Path × Node} (he : e ∈ fs) (hne : e.1 ≠ []) :
    lookup fs e.1 ≠ none := by
  rw [lookup_of_ne_nil _ hne]
  intro h
  simpa using List.find?_eq_none.1 (Option.map_eq_none_iff.1 h) e he

theorem mem_of_lookup {p : Path} {n : Node} (hne : p ≠ []) (h : lookup fs p = some n) :
    (p, n) ∈ fs := by
  rw [lookup_of_ne_nil _ hne] at h
  obtain ⟨⟨a, b⟩, he, rfl⟩ := Option.map_eq_some_iff.1 h
  have := List.find?_some he
  simp only [beq_iff_eq] at this
  subst this
  exact List.mem_of_find?_eq_some he

theorem plain_not_trivial {c : String} (h : plain c = true) : trivialComp c = false := by
  simp only [plain, Bool.and_eq_true, Bool.not_eq_true'] at h; exact h.1

theorem plain_not_dotdot {c : String} (h : plain c = true) : (c == "..") = false := by
  simp only [plain, Bool.and_eq_true, Bool.not_eq_true'] at h; exact h.2

theorem plain_ne_empty {c : String} (h : plain c = true) : c ≠ "" := by
  intro e; subst e; simp [plain, trivialComp] at h

theorem comp_cases (c : String) : trivialComp c = true ∨ c = ".." ∨ plain c = true := by
  by_cases h1 : trivialComp c = true
  · exact Or.inl h1
  · by_cases h2 : c = ".."
    · exact Or.inr (Or.inl h2)
    · exact Or.inr (Or.inr (by simp [plain, h1, h2]))

theorem foldl_stepDir_error (fs : FS) (rec : Path → List String → Except Err Path) (e : Err)
    (comps : List String) : comps.foldl (stepDir fs rec) (.error e) = .error e := by
  induction comps with
  | nil => rfl
  | cons c r ih => simpa [List.foldl_cons, stepDir] using ih

theorem resolveDir_nil (fs : FS) (f : Nat) (cur : Path) : resolveDir fs (f + 1) cur [] = .ok cur := rfl

theorem resolveDir_cons (fs : FS) (f : Nat) (cur : Path) (c : String) (r : List String) :
    resolveDir fs (f + 1) cur (c :: r) =
      match stepDir fs (resolveDir fs f) (.ok cur) c with
      | .ok q => resolveDir fs (f + 1) q r
      | .error e => .error e := by
  rw [resolveDir, List.foldl_cons]
  cases h : stepDir fs (resolveDir fs f) (.ok cur) c with
  | ok q => rfl
  | error e => exact foldl_stepDir_error _ _ _ _

theorem resolveDir_append (fs : FS) (f : Nat) (cur : Path) (a b : List String) :
    resolveDir fs (f + 1) cur (a ++ b) =
      match resolveDir fs (f + 1) cur a with
      | .ok q => resolveDir fs (f + 1) q b
      | .error e => .error e := by
  induction a generalizing cur with
  | nil => rfl
  | cons c r ih =>
    rw [List.cons_append, resolveDir_cons, resolveDir_cons]
    cases h : stepDir fs (resolveDir fs f) (.ok cur) c with
    | ok q => exact ih q
    | error e => rfl

theorem resolveDir_concat (fs : FS) (f : Nat) (cur : Path) (pre : List String) (c : String) :
    resolveDir fs (f + 1) cur (pre ++ [c]) =
      stepDir fs (resolveDir fs f) (resolveDir fs (f + 1) cur pre) c :=
  List.foldl_append ..

section step
variable {rec : Path → List String → Except Err Path} {cur : Path} {c : String}

theorem stepDir_skip (h : trivialComp c = true) : stepDir fs rec (.ok cur) c = .ok cur := by
  simp [stepDir, h]

theorem stepDir_up : stepDir fs rec (.ok cur) ".." = .ok cur.dropLast := by
  simp [stepDir, trivialComp]

theorem stepDir_plain (h : plain c = true) :
    stepDir fs rec (.ok cur) c =
      match lookup fs (cur ++ [c]) with
      | none => .error .noent
      | some .dir => .ok (cur ++ [c])
      | some (.file _) => .error .notdir
      | some (.link t) => rec (if t.abs then [] else cur) t.comps := by
  simp only [stepDir, plain_not_trivial h, plain_not_dotdot h, Bool.false_eq_true, if_false]
  rfl

end step

inductive Walk (fs : FS) : Nat → Path → List String → Path → Prop
  | nil {f cur} : Walk fs (f + 1) cur [] cur
  | skip {f cur c r q} : trivialComp c = true → Walk fs (f + 1) cur r q → Walk fs (f + 1) cur (c :: r) q
  | up {f cur r q} : Walk fs (f + 1) cur.dropLast r q → Walk fs (f + 1) cur (".." :: r) q
  | dir {f cur c r q} : plain c = true → lookup fs (cur ++ [c]) = some .dir →
      Walk fs (f + 1) (cur ++ [c]) r q → Walk fs (f + 1) cur (c :: r) q
  | link {f cur c r q t q1} : plain c = true → lookup fs (cur ++ [c]) = some (.link t) →
      Walk fs f (if t.abs then [] else cur) t.comps q1 → Walk fs (f + 1) q1 r q →
      Walk fs (f + 1) cur (c :: r) q

theorem Walk.of_resolveDir {f : Nat} {cur : Path} {comps : List String} {q : Path}
    (h : resolveDir fs f cur comps = .ok q) : Walk fs f cur comps q := by
  induction f generalizing cur comps q with
  | zero => simp [resolveDir] at h
  | succ f ihf =>
    induction comps generalizing cur with
    | nil => simp only [resolveDir_nil, Except.ok.injEq] at h; subst h; exact .nil
    | cons c r ih =>
      rw [resolveDir_cons] at h
      rcases comp_cases c with hc | rfl | hc
      · rw [stepDir_skip hc] at h; exact .skip hc (ih h)
      · rw [stepDir_up] at h; exact .up (ih h)
      · rw [stepDir_plain hc] at h
        cases hl : lookup fs (cur ++ [c]) with
        | none => simp [hl] at h
        | some n =>
          rw [hl] at h
          cases n with
          | file x => simp at h
          | dir => exact .dir hc hl (ih h)
          | link t =>
            cases h1 : resolveDir fs f (if t.abs then [] else cur) t.comps with
            | error e => simp [h1] at h
            | ok q1 =>
              simp only [h1] at h
              exact .link hc hl (ihf h1) (ih h)

theorem Walk.to_resolveDir {f : Nat} {cur q : Path} {comps : List String}
    (h : Walk fs f cur comps q) : resolveDir fs f cur comps = .ok q := by
  induction h with
  | nil => rfl
  | skip hc _ ih => rw [resolveDir_cons, stepDir_skip hc]; exact ih
  | up _ ih => rw [resolveDir_cons, stepDir_up]; exact ih
  | dir hc hl _ ih => rw [resolveDir_cons, stepDir_plain hc, hl]; exact ih
  | link hc hl _ _ ih1 ih2 => rw [resolveDir_cons, stepDir_plain hc, hl]; simp only [ih1]; exact ih2

def Ext (fs fs' : FS) : Prop :=
  ∀ p, (lookup fs p = some .dir → lookup fs' p = some .dir) ∧
       (∀ t, lookup fs p = some (.link t) → lookup fs' p = some (.link t))

theorem Ext.refl (fs : FS) : Ext fs fs := fun _ => ⟨id, fun _ => id⟩

theorem Ext.trans {a b c : FS} (h1 : Ext a b) (h2 : Ext b c) : Ext a c :=
  fun p => ⟨fun h => (h2 p).1 ((h1 p).1 h), fun t h => (h2 p).2 t ((h1 p).2 t h)⟩

theorem Walk.ext {fs fs' : FS} (hx : Ext fs fs') {f : Nat} {cur q : Path} {comps : List String}
    (h : Walk fs f cur comps q) : Walk fs' f cur comps q := by
  induction h with
  | nil => exact .nil
  | skip hc _ ih => exact .skip hc ih
  | up _ ih => exact .up ih
  | dir hc hl _ ih => exact .dir hc ((hx _).1 hl) ih
  | link hc hl _ _ ih1 ih2 => exact .link hc ((hx _).2 _ hl) ih1 ih2

theorem resolveDir_ext {fs fs' : FS} (h : Ext fs fs') {fuel : Nat} {cur q : Path} {comps : List String}
    (hq : resolveDir fs fuel cur comps = .ok q) : resolveDir fs' fuel cur comps = .ok q :=
  ((Walk.of_resolveDir hq).ext h).to_resolveDir

/-- the components never climb above the directory the walk is `d` levels below -/
def safeComps : Nat → List String → Bool
  | _, [] => true
  | d, c :: r =>
    if trivialComp c then safeComps d r
    else if c == ".." then (d != 0 && safeComps (d - 1) r)
    else safeComps (d + 1) r

theorem safeComps_skip {d : Nat} {c : String} {r : List String} (hc : trivialComp c = true) :
    safeComps d (c :: r) = safeComps d r := by
  simp [safeComps, hc]

theorem safeComps_up {d : Nat} {r : List String} : safeComps (d + 1) (".." :: r) = safeComps d r := by
  simp [safeComps, trivialComp]

theorem safeComps_up_zero {r : List String} : safeComps 0 (".." :: r) = false := by
  simp [safeComps, trivialComp]

theorem safeComps_cons_plain {d : Nat} {c : String} {r : List String} (hc : plain c = true) :
    safeComps d (c :: r) = safeComps (d + 1) r := by
  simp [safeComps, plain_not_trivial hc, plain_not_dotdot hc]

theorem dropLast_inside {W cur : Path} {d : Nat} (hw : W <+: cur) (hlen : cur.length = W.length + (d + 1)) :
    W <+: cur.dropLast ∧ cur.dropLast.length = W.length + d :=
  ⟨prefix_dropLast_of_below (below_of_length_lt hw (hlen ▸ Nat.lt_add_of_pos_right d.succ_pos)),
    by rw [List.length_dropLast, hlen]; rfl⟩

theorem length_snoc_inside {W cur : Path} {d : Nat} (hlen : cur.length = W.length + d) (c : String) :
    (cur ++ [c]).length = W.length + (d + 1) := by
  rw [List.length_append, hlen]
  rfl

def LinkFreeBelow (W : Path) (fs : FS) : Prop :=
  ∀ p t, Below W p → lookup fs p ≠ some (.link t)

theorem Walk.inside {W : Path} (hlf : LinkFreeBelow W fs) {f : Nat} {cur q : Path}
    {comps : List String} (h : Walk fs f cur comps q) : ∀ d, W <+: cur → cur.length = W.length + d →
      safeComps d comps = true → W <+: q := by
  induction h with
  | nil => exact fun _ hw _ _ => hw
  | skip hc _ ih => intro d hw hlen hs; rw [safeComps_skip hc] at hs; exact ih d hw hlen hs
  | up _ ih =>
    intro d hw hlen hs
    cases d with
    | zero => simp [safeComps_up_zero] at hs
    | succ d =>
      obtain ⟨h1, h2⟩ := dropLast_inside hw hlen
      exact ih d h1 h2 (safeComps_up ▸ hs)
  | dir hc _ _ ih =>
    intro d hw hlen hs
    rw [safeComps_cons_plain hc] at hs
    exact ih (d + 1) (below_append_singleton hw _).1 (length_snoc_inside hlen _) hs
  | link _ hl _ _ _ _ => exact fun _ hw _ _ => absurd hl (hlf _ _ (below_append_singleton hw _))

theorem resolveDir_inside {W : Path} {fs : FS} (hlf : LinkFreeBelow W fs) (f : Nat) :
    ∀ (comps : List String) (cur : Path) (d : Nat) (q : Path),
      W <+: cur → cur.length = W.length + d → safeComps d comps = true →
      resolveDir fs (f + 1) cur comps = .ok q → W <+: q :=
  fun _ _ d _ hw hlen hs hq => (Walk.of_resolveDir hq).inside hlf d hw hlen hs

def PhysDir (fs : FS) (d : Path) : Prop :=
  (∀ c ∈ d, plain c = true) ∧ ∀ k, k < d.length → lookup fs (d.take (k + 1)) = some .dir

theorem physDir_nil (fs : FS) : PhysDir fs [] := ⟨by simp, by simp⟩

theorem forall_mem_snoc {α : Type} {P : α → Prop} {d : List α} {c : α} (h : ∀ x ∈ d, P x) (hc : P c) :
    ∀ x ∈ d ++ [c], P x := by
  intro x hx
  rcases List.mem_append.1 hx with hx | hx
  · exact h x hx
  · rw [List.mem_singleton.1 hx]; exact hc

theorem physDir_snoc {d : Path} {c : String} (h : PhysDir fs d) (hc : plain c = true)
    (hl : lookup fs (d ++ [c]) = some .dir) : PhysDir fs (d ++ [c]) := by
  refine ⟨forall_mem_snoc h.1 hc, fun k hk => ?_⟩
  simp only [List.length_append, List.length_singleton] at hk
  by_cases hk' : k < d.length
  · rw [List.take_append_of_le_length (Nat.succ_le_of_lt hk')]; exact h.2 k hk'
  · rw [List.take_of_length_le (by rw [List.length_append]; exact Nat.succ_le_succ (Nat.le_of_not_lt hk'))]; exact hl

theorem physDir_dropLast {d : Path} (h : PhysDir fs d) : PhysDir fs d.dropLast := by
  refine ⟨fun c hc => h.1 c (List.dropLast_subset d hc), fun k hk => ?_⟩
  rw [List.length_dropLast] at hk
  rw [List.dropLast_eq_take, List.take_take, Nat.min_eq_left (Nat.succ_le_of_lt hk)]
  exact h.2 k (Nat.lt_of_lt_of_le hk (Nat.sub_le _ _))

theorem physDir_lookup {d : Path} (h : PhysDir fs d) : lookup fs d = some .dir := by
  cases hd : d.length with
  | zero => rw [List.eq_nil_of_length_eq_zero hd]; rfl
  | succ n => simpa [List.take_of_length_le (Nat.le_of_eq hd)] using h.2 n (hd ▸ n.lt_succ_self)

theorem PhysDir.ext {fs fs' : FS} {d : Path} (h : PhysDir fs d) (hx : Ext fs fs') : PhysDir fs' d :=
  ⟨h.1, fun k hk => (hx _).1 (h.2 k hk)⟩

theorem physDir_resolves_from (f : Nat) : ∀ (r pre : Path), PhysDir fs (pre ++ r) →
    resolveDir fs (f + 1) pre r = .ok (pre ++ r) := by
  intro r
  induction r with
  | nil => intro pre _; simp [resolveDir_nil]
  | cons c r ih =>
    intro pre h
    have hl : lookup fs (pre ++ [c]) = some .dir := by
      simpa [List.take_append, List.take_of_length_le (Nat.le_succ _)] using h.2 pre.length (by simp)
    rw [resolveDir_cons, stepDir_plain (h.1 c (by simp)), hl]
    simpa using ih (pre ++ [c]) (by simpa using h)

theorem physDir_resolves (f : Nat) {d : Path} (h : PhysDir fs d) :
    resolveDir fs (f + 1) [] d = .ok d := by
  simpa using physDir_resolves_from f d [] (by simpa using h)

theorem Walk.phys {f : Nat} {cur q : Path} {comps : List String} (h : Walk fs f cur comps q)
    (hc : PhysDir fs cur) : PhysDir fs q := by
  induction h with
  | nil => exact hc
  | skip _ _ ih => exact ih hc
  | up _ ih => exact ih (physDir_dropLast hc)
  | dir hp hl _ ih => exact ih (physDir_snoc hc hp hl)
  | link _ _ _ _ ih1 ih2 =>
    refine ih2 (ih1 ?_)
    split
    · exact physDir_nil fs
    · exact hc

theorem resolveDir_phys {fuel : Nat} {comps : List String} {cur q : Path}
    (hc : PhysDir fs cur) (h : resolveDir fs fuel cur comps = .ok q) : PhysDir fs q :=
  (Walk.of_resolveDir h).phys hc

theorem resolve_nil (fs : FS) (f : Nat) (follow : Bool) (cur : Path) :
    resolve fs (f + 1) follow cur [] = .ok (cur, some .dir) := by
  simp [resolve]

theorem resolve_concat (fs : FS) (f : Nat) (follow : Bool) (cur : Path) (pre : List String) (c : String) :
    resolve fs (f + 1) follow cur (pre ++ [c]) =
      match resolveDir fs (f + 1) cur pre with
      | .error e => .error e
      | .ok d =>
        if trivialComp c then .ok (d, some .dir)
        else if c == ".." then .ok (d.dropLast, some .dir)
        else match lookup fs (d ++ [c]) with
          | some (.link t) =>
            if follow then resolve fs f follow (if t.abs then [] else d) t.comps
            else .ok (d ++ [c], some (.link t))
          | n => .ok (d ++ [c], n) := by
  simp only [resolve, List.getLast?_concat, List.dropLast_concat]
  rfl

theorem resolve_snoc {f : Nat} {follow : Bool} {cur d : Path} {pre : List String} {c : String}
    (hc : plain c = true) (hd : resolveDir fs (f + 1) cur pre = .ok d)
    (hl : follow = false ∨ ∀ t, lookup fs (d ++ [c]) ≠ some (.link t)) :
    resolve fs (f + 1) follow cur (pre ++ [c]) = .ok (d ++ [c], lookup fs (d ++ [c])) := by
  simp only [resolve_concat, hd, plain_not_trivial hc, plain_not_dotdot hc, Bool.false_eq_true, if_false]
  split
  · rename_i t ht
    rcases hl with rfl | hl
    · simp [ht]
    · exact absurd ht (hl t)
  · rfl

theorem ok_dir_iff {d q : Path} :
    (.ok (d, some .dir) : Except Err (Path × Option Node)) = .ok (q, some .dir) ↔
      (.ok d : Except Err Path) = .ok q := by
  simp only [Except.ok.injEq, Prod.mk.injEq, and_true]

theorem error_iff_error {α β : Type} {e e' : Err} {a : α} {b : β} :
    (.error e : Except Err α) = .ok a ↔ (.error e' : Except Err β) = .ok b := ⟨nofun, nofun⟩

theorem resolve_dir_iff : ∀ (f : Nat) (cur : Path) (comps : List String) (q : Path),
    resolve fs f true cur comps = .ok (q, some .dir) ↔ resolveDir fs f cur comps = .ok q := by
  intro f
  induction f with
  | zero => exact fun _ _ _ => error_iff_error
  | succ f ih =>
    intro cur comps q
    rcases List.eq_nil_or_concat comps with rfl | ⟨pre, c, rfl⟩
    · exact ok_dir_iff
    · rw [List.concat_eq_append, resolve_concat, resolveDir_concat]
      cases resolveDir fs (f + 1) cur pre with
      | error e => exact error_iff_error
      | ok d =>
        dsimp only
        rcases comp_cases c with hc | rfl | hc
        · rw [if_pos hc, stepDir_skip hc]
          exact ok_dir_iff
        · rw [stepDir_up]
          exact ok_dir_iff
        · rw [stepDir_plain hc, plain_not_trivial hc, plain_not_dotdot hc, if_neg Bool.false_ne_true,
            if_neg Bool.false_ne_true]
          cases lookup fs (d ++ [c]) with
          | none => simp
          | some n =>
            cases n with
            | file x => simp
            | dir => exact ok_dir_iff
            | link t => exact ih _ _ _

theorem resolve_file_last_plain {f : Nat} {follow : Bool} {cur q : Path} {comps : List String}
    {x : Nat} (h : resolve fs f follow cur comps = .ok (q, some (.file x))) :
    ∃ c, comps.getLast? = some c ∧ plain c = true := by
  cases f with
  | zero => simp [resolve] at h
  | succ f =>
    rcases List.eq_nil_or_concat comps with rfl | ⟨pre, c, rfl⟩
    · simp [resolve_nil] at h
    · rw [List.concat_eq_append] at h ⊢
      rcases comp_cases c with hc | rfl | hc
      · cases hd : resolveDir fs (f + 1) cur pre <;> simp [resolve_concat, hd, hc] at h
      · cases hd : resolveDir fs (f + 1) cur pre <;> simp [resolve_concat, hd, trivialComp] at h
      · exact ⟨c, by simp, hc⟩

theorem mem_insertName {n x : String} {l : List String} : x ∈ insertName n l ↔ x = n ∨ x ∈ l := by
  induction l with
  | nil => simp [insertName]
  | cons m r ih =>
    simp only [insertName]
    split
    · rename_i h; simp only [beq_iff_eq] at h; simp [h]
    · split
      · simp
      · simp [ih, or_left_comm]

/-- the membership condition of `childNames` -/
def isChildEntry (p : Path) (e : Path × Node) : Bool := p.isPrefixOf e.1 && e.1.length == p.length + 1

theorem isChildEntry_iff {p : Path} {e : Path × Node} : isChildEntry p e = true ↔ ∃ n, e.1 = p ++ [n] := by
  simp only [isChildEntry, Bool.and_eq_true, List.isPrefixOf_iff_prefix, beq_iff_eq]
  constructor
  · rintro ⟨⟨r, hr⟩, hl⟩
    have hl : r.length = 1 := by rw [← hr, List.length_append] at hl; exact Nat.add_left_cancel hl
    match r, hl with
    | [n], _ => exact ⟨n, hr.symm⟩
  · rintro ⟨n, h⟩; rw [h]; exact ⟨List.prefix_append _ _, by simp⟩

theorem mem_childNames {p : Path} {x : String} :
    x ∈ childNames fs p ↔ ∃ e ∈ fs, e.1 = p ++ [x] := by
  have hstep : ∀ (acc : List String) (e : Path × Node), x ∈ (if isChildEntry p e then
        match e.1.getLast? with
        | some n => insertName n acc
        | none => acc
      else acc) ↔ x ∈ acc ∨ e.1 = p ++ [x] := by
    intro acc e
    by_cases hc : isChildEntry p e = true
    · obtain ⟨n, hn⟩ := isChildEntry_iff.1 hc
      rw [if_pos hc, hn, List.getLast?_concat, List.append_cancel_left_eq, List.cons.injEq]
      simp only [mem_insertName, and_true, or_comm, eq_comm]
    · rw [if_neg hc]
      exact ⟨Or.inl, fun h => h.resolve_right fun h => hc (isChildEntry_iff.2 ⟨x, h⟩)⟩
  suffices h : ∀ acc, x ∈ fs.foldl (fun acc e =>
      if isChildEntry p e then
        match e.1.getLast? with
        | some n => insertName n acc
        | none => acc
      else acc) acc ↔ (x ∈ acc ∨ ∃ e ∈ fs, e.1 = p ++ [x]) from (h []).trans (by simp)
  induction fs with
  | nil => simp
  | cons e fs ih =>
    intro acc
    rw [List.foldl_cons, ih, hstep, or_assoc]
    simp only [List.mem_cons, exists_eq_or_imp]

theorem dropTrailingEmpty_snoc_empty (l : List String) : dropTrailingEmpty (l ++ [""]) = l := by
  simp [dropTrailingEmpty]

theorem dropTrailingEmpty_snoc_ne (l : List String) {a : String} (ha : a ≠ "") :
    dropTrailingEmpty (l ++ [a]) = l ++ [a] := by
  unfold dropTrailingEmpty
  split
  · rename_i heq; simp at heq; exact absurd heq ha
  · rfl

theorem dropTrailingEmpty_cases (l : List String) :
    dropTrailingEmpty l = l ∨ l = dropTrailingEmpty l ++ [""] := by
  rcases List.eq_nil_or_concat l with rfl | ⟨l', a, rfl⟩
  · exact Or.inl rfl
  · rw [List.concat_eq_append]
    by_cases ha : a = ""
    · subst ha; right; rw [dropTrailingEmpty_snoc_empty]
    · left; exact dropTrailingEmpty_snoc_ne l' ha

theorem dropTrailingEmpty_of_plain {l : List String} (h : ∀ x ∈ l, plain x = true) :
    dropTrailingEmpty l = l := by
  rcases dropTrailingEmpty_cases l with e | e
  · exact e
  · exact absurd rfl (plain_ne_empty (h "" (by rw [e]; simp)))

theorem dropTrailingEmpty_append_cons (a : List String) {t0 : String} (ht : plain t0 = true)
    (rest : List String) :
    dropTrailingEmpty (a ++ t0 :: rest) = a ++ t0 :: dropTrailingEmpty rest := by
  rcases List.eq_nil_or_concat rest with rfl | ⟨r', x, rfl⟩
  · exact dropTrailingEmpty_snoc_ne a (plain_ne_empty ht)
  · rw [List.concat_eq_append, ← List.cons_append, ← List.append_assoc]
    by_cases hx : x = ""
    · subst hx; rw [dropTrailingEmpty_snoc_empty, dropTrailingEmpty_snoc_empty]
    · rw [dropTrailingEmpty_snoc_ne _ hx, dropTrailingEmpty_snoc_ne _ hx]; simp

theorem resolveDir_dropTrailingEmpty (fs : FS) (f : Nat) (cur : Path) (l : List String) :
    resolveDir fs (f + 1) cur (dropTrailingEmpty l) = resolveDir fs (f + 1) cur l := by
  rcases dropTrailingEmpty_cases l with h | h
  · rw [h]
  · conv => rhs; rw [h, resolveDir_concat]
    cases resolveDir fs (f + 1) cur (dropTrailingEmpty l) with
    | error e => rfl
    | ok q => exact (stepDir_skip rfl).symm

theorem startOf_ok {cwd : Path} {p : RPath} {st : Path} (h : startOf fs cwd p = .ok st) :
    st = if p.abs then [] else cwd := by
  unfold startOf at h
  by_cases ha : p.abs = true
  · simpa [ha] using h.symm
  · simp only [ha, if_false, Bool.false_eq_true] at h ⊢
    split at h <;> simp at h
    exact h.symm

theorem startOf_ext {fs fs' : FS} {cwd : Path} {p : RPath} {st : Path} (hx : Ext fs fs')
    (h : startOf fs cwd p = .ok st) : startOf fs' cwd p = .ok st := by
  unfold startOf at h ⊢
  split
  · simpa [*] using h
  · simp only [*, if_false, Bool.false_eq_true] at h
    split at h <;> simp at h
    rename_i hl
    rw [(hx cwd).1 hl]; simp [h]

theorem startOf_abs_eq {cwd : Path} {p p' : RPath} (h : p'.abs = p.abs) :
    startOf fs cwd p' = startOf fs cwd p := by
  unfold startOf; rw [h]

theorem normLex_append (acc : Path) (a b : List String) :
    normLex acc (a ++ b) = normLex (normLex acc a) b := by
  induction a generalizing acc with
  | nil => rfl
  | cons c r ih =>
    simp only [List.cons_append, normLex]
    split
    · exact ih acc
    · split <;> exact ih _

theorem normLex_plain (acc : Path) {n : String} (h : plain n = true) : normLex acc [n] = acc ++ [n] := by
  simp [normLex, plain_not_trivial h, plain_not_dotdot h]

theorem normLex_dropTrailingEmpty (acc : Path) (l : List String) :
    normLex acc (dropTrailingEmpty l) = normLex acc l := by
  rcases dropTrailingEmpty_cases l with h | h
  · rw [h]
  · conv => rhs; rw [h, normLex_append]
    simp [normLex, trivialComp]

theorem joinName_eq (p : RPath) (n : String) :
    joinName p n = { abs := p.abs, comps := dropTrailingEmpty p.comps ++ [n] } := by
  simp [joinName, join]

theorem abspath_joinName_plain (cwd : Path) (top : RPath) {n : String} (h : plain n = true) :
    abspath cwd (joinName top n) = abspath cwd top ++ [n] := by
  rw [joinName_eq]
  unfold abspath
  split <;> rw [normLex_append, normLex_dropTrailingEmpty, normLex_plain _ h]

theorem commonPrefixLen_append (s ns : List String) : commonPrefixLen s (s ++ ns) = s.length := by
  induction s with
  | nil => cases ns <;> rfl
  | cons a r ih => simp [commonPrefixLen, ih]

theorem relpath_of_top {cwd : Path} {top src : RPath} {ns : List String}
    (h : abspath cwd top = abspath cwd src ++ ns) :
    relpath cwd top src = { abs := false, comps := if ns.isEmpty then ["."] else ns } := by
  simp only [relpath, h, commonPrefixLen_append, Nat.sub_self, List.replicate_zero, List.nil_append,
    List.drop_left]

end LianVerif.Fs
