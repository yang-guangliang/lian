/-
The target side of the lowering simulations, shared by C01 and C02: how emitted code runs (`Steps`,
`Computes`, `Runs`) and how source and target states are related (`Sim`, `Sim2`).  The namespace is
`LianVerif.LowerPy` because both models number their temporaries with `LowerPy.tmp`.
-/
import LianVerif.Proofs.GirStore
import LianVerif.Model.LowerPy
import Std.Data.String.ToNat

namespace LianVerif.LowerPy
open LianVerif.Gir

theorem tmp_inj {i j : Nat} (h : tmp i = tmp j) : i = j :=
  Nat.repr_inj.1 ((String.append_right_inj "%vv").1 h)

/-- Only τ is constrained beyond agreement off the temporaries: its budget is off, so that `tick` is the
identity in every `Steps` lemma, and the temporaries are plain locals of its current frame, so that a write
to one is a `State.Upd`. -/
structure Sim (σ τ : State) : Prop where
  heap : σ.heap = τ.heap
  env : σ.env = τ.env
  out : σ.out = τ.out
  budget : τ.budget = none
  look : ∀ x, (∀ n, x ≠ tmp n) → σ.lookup x = τ.lookup x
  loc : ∀ n, τ.Loc (tmp n)

theorem Sim.refl {σ : State} (hb : σ.budget = none) (hloc : ∀ n, σ.Loc (tmp n)) : Sim σ σ :=
  ⟨rfl, rfl, rfl, hb, fun _ _ => rfl, hloc⟩

/-- in the order of the conclusions of the C01 and C02 theorems. -/
theorem Sim.obs {σ τ : State} (h : Sim σ τ) :
    τ.heap = σ.heap ∧ τ.out = σ.out ∧ τ.env = σ.env ∧ ∀ x, (∀ n, x ≠ tmp n) → τ.lookup x = σ.lookup x :=
  ⟨h.heap.symm, h.out.symm, h.env.symm, fun x hx => (h.look x hx).symm⟩

theorem Sim.withHeap {σ τ : State} (hs : Sim σ τ) (h : List Obj) :
    Sim { σ with heap := h } { τ with heap := h } :=
  ⟨rfl, hs.env, hs.out, hs.budget,
    fun x hx => (lookup_heap σ h x).trans ((hs.look x hx).trans (lookup_heap τ h x).symm), hs.loc⟩

theorem Sim.withOut {σ τ : State} (hs : Sim σ τ) (v : Val) :
    Sim { σ with out := σ.render v :: σ.out } { τ with out := τ.render v :: τ.out } :=
  ⟨hs.heap, hs.env, by simp only [State.render, hs.heap, hs.out], hs.budget,
    fun x hx => (lookup_out σ _ x).trans ((hs.look x hx).trans (lookup_out τ _ x).symm), hs.loc⟩

theorem Sim.write {σ τ τ' : State} {n : Nat} {v : Val} (hs : Sim σ τ) (hu : τ.Upd τ' (tmp n) v) : Sim σ τ' :=
  ⟨hs.heap.trans hu.heap.symm, hs.env.trans hu.env.symm, hs.out.trans hu.out.symm, hu.budget.trans hs.budget,
    fun x hx => (hs.look x hx).trans (hu.other x (hx n)).symm, fun m => hu.loc _ (hs.loc m)⟩

theorem Sim.truthy {σ τ : State} (hs : Sim σ τ) (v : Val) : τ.truthy v = σ.truthy v := by
  simp only [State.truthy, hs.heap]

def Steps (ss : List Stmt) (τ τ' : State) : Prop :=
  ∀ rest N, exec (N + ss.length) τ (ss ++ rest) = exec N τ' rest

theorem exec_nil_append (N : Nat) (τ : State) (rest : List Stmt) :
    exec (N + ([] : List Stmt).length) τ ([] ++ rest) = exec N τ rest := rfl

theorem Steps.nil {τ : State} : Steps [] τ τ := fun rest N => exec_nil_append N τ rest

theorem exec_append (N : Nat) (τ : State) (a b rest : List Stmt) :
    exec (N + (a ++ b).length) τ ((a ++ b) ++ rest) = exec ((N + b.length) + a.length) τ (a ++ (b ++ rest)) := by
  rw [List.length_append, List.append_assoc, Nat.add_assoc, Nat.add_comm a.length]

theorem Steps.append {a b : List Stmt} {τ τ1 τ2 : State} (h1 : Steps a τ τ1) (h2 : Steps b τ1 τ2) :
    Steps (a ++ b) τ τ2 := fun rest N => by
  rw [exec_append, h1, h2]

theorem Steps.exec_eq {ss : List Stmt} {τ τ' : State} (h : Steps ss τ τ') :
    exec (ss.length + 1) τ ss = (.normal, τ') := by
  have := h [] 1
  rwa [List.append_nil, Nat.add_comm] at this

theorem Steps.assign {τ τ' : State} {t op : String} {a : Opd} {b : Option Opd} (hb : τ.budget = none)
    (hs : stepSimple τ (.assign t op a b) = some (.ok τ')) : Steps [.assign t op a b] τ τ' := by
  intro rest N
  simp only [List.length_singleton, List.singleton_append, exec, State.tick, hb, hs]

theorem Steps.varDecl {τ τ' : State} {x : String} (hb : τ.budget = none)
    (hs : stepSimple τ (.varDecl x) = some (.ok τ')) : Steps [.varDecl x] τ τ' := by
  intro rest N
  simp only [List.length_singleton, List.singleton_append, exec, State.tick, hb, hs]

theorem Steps.pass {τ : State} (hb : τ.budget = none) : Steps [.pass] τ τ := by
  intro rest N
  simp only [List.length_singleton, List.singleton_append, exec, State.tick, hb, stepSimple]

theorem Steps.optPass {ss : List Stmt} {τ τ' : State} (b : Bool) (h : Steps ss τ τ') (hb : τ'.budget = none) :
    Steps (if b then ss ++ [.pass] else ss) τ τ' := by
  cases b
  · exact h
  · exact h.append (Steps.pass hb)

/-- `fresh`: `o` is no temporary above `k'`, so it keeps its value while later temporaries are written.
The source state before the evaluation does not occur: `Sim` of it with `τ` is a premise of the users. -/
structure Computes (ss : List Stmt) (o : Opd) (k k' : Nat) (τ τ' σ' : State) (v : Val) : Prop where
  le : k ≤ k'
  fresh : ∀ j, k' < j → o ≠ .var (tmp j)
  steps : Steps ss τ τ'
  val : τ'.evalOpd o = .ok v
  sim : Sim σ' τ'
  keep : ∀ y, (∀ j, k < j → j ≤ k' → y ≠ tmp j) → τ'.lookup y = τ.lookup y
  loc : ∀ y, τ.Loc y → τ'.Loc y

theorem Computes.atom {o : Opd} {k : Nat} {σ τ : State} {v : Val} (hs : Sim σ τ)
    (hv : τ.evalOpd o = .ok v) (hf : ∀ j, o ≠ .var (tmp j)) : Computes [] o k k τ τ σ v :=
  ⟨Nat.le_refl _, fun j _ => hf j, Steps.nil, hv, hs, fun _ _ => rfl, fun _ h => h⟩

theorem evalOpd_keep {o : Opd} {k k' : Nat} {τ τ' : State} (hf : ∀ j, k < j → o ≠ .var (tmp j))
    (hk : ∀ y, (∀ j, k < j → j ≤ k' → y ≠ tmp j) → τ'.lookup y = τ.lookup y) :
    τ'.evalOpd o = τ.evalOpd o := by
  cases o with
  | lit c => rfl
  | var y => exact hk y fun j hj _ e => hf j hj (congrArg Opd.var e)

theorem Computes.seq {s1 s2 : List Stmt} {a b : Opd} {k k1 k2 : Nat} {τ τ1 τ2 σ1 σ2 : State} {va vb : Val}
    (h1 : Computes s1 a k k1 τ τ1 σ1 va) (h2 : Computes s2 b k1 k2 τ1 τ2 σ2 vb) :
    Computes (s1 ++ s2) b k k2 τ τ2 σ2 vb :=
  ⟨Nat.le_trans h1.le h2.le, h2.fresh, h1.steps.append h2.steps, h2.val, h2.sim,
    fun y hy => (h2.keep y fun j hj hj' => hy j (Nat.lt_of_le_of_lt h1.le hj) hj').trans
      (h1.keep y fun j hj hj' => hy j hj (Nat.le_trans hj' h2.le)),
    fun y hy => h2.loc y (h1.loc y hy)⟩

/-- `h'`: the heap the operator of `s` left (`τ1.heap` unless it allocates). -/
theorem Computes.push {ss : List Stmt} {s : Stmt} {a : Opd} {k k1 : Nat} {τ τ1 τ2 σ1 σ' : State} {va v : Val}
    {h' : List Obj} (h : Computes ss a k k1 τ τ1 σ1 va) (hst : Steps [s] τ1 τ2)
    (hs : Sim σ' { τ1 with heap := h' }) (hu : ({ τ1 with heap := h' } : State).Upd τ2 (tmp (k1 + 1)) v) :
    Computes (ss ++ [s]) (.var (tmp (k1 + 1))) k (k1 + 1) τ τ2 σ' v :=
  ⟨Nat.le_succ_of_le h.le, fun _ hj e => Nat.ne_of_lt hj (tmp_inj (Opd.var.inj e)), h.steps.append hst, hu.get,
    hs.write hu,
    fun y hy => (hu.other y (hy _ (Nat.lt_succ_of_le h.le) (Nat.le_refl _))).trans <| (lookup_heap τ1 h' y).trans
      (h.keep y fun j hj hj' => hy j hj (Nat.le_succ_of_le hj')),
    fun y hy => hu.loc y (h.loc y hy)⟩

theorem Computes.bin {s1 s2 : List Stmt} {a b : Opd} {k k1 k2 : Nat} {τ τ1 τ2 σ1 σ2 : State}
    {va vb v : Val} {op : String} {h' : List Obj}
    (h1 : Computes s1 a k k1 τ τ1 σ1 va) (h2 : Computes s2 b k1 k2 τ1 τ2 σ2 vb)
    (hop : binopH σ2.heap op va vb = .ok (v, h')) :
    ∃ τ3, Computes (s1 ++ s2 ++ [.assign (tmp (k2 + 1)) op a (some b)]) (.var (tmp (k2 + 1))) k (k2 + 1)
      τ τ3 { σ2 with heap := h' } v := by
  have ha : τ2.evalOpd a = .ok va := (evalOpd_keep h1.fresh h2.keep).trans h1.val
  obtain ⟨τ3, hstep, hu⟩ :=
    step_assign_bin τ2 (tmp (k2 + 1)) op a b va vb v h' ha h2.val (h2.sim.heap ▸ hop) (h2.sim.loc _)
  exact ⟨τ3, (h1.seq h2).push (Steps.assign h2.sim.budget hstep) (h2.sim.withHeap h') hu⟩

theorem Computes.un {s1 : List Stmt} {a : Opd} {k k1 : Nat} {τ τ1 σ1 : State} {va v : Val} {op : String}
    (h1 : Computes s1 a k k1 τ τ1 σ1 va) (hne : op ≠ "") (hop : unopH σ1.heap op va = .ok v) :
    ∃ τ2, Computes (s1 ++ [.assign (tmp (k1 + 1)) op a none]) (.var (tmp (k1 + 1))) k (k1 + 1) τ τ2 σ1 v := by
  obtain ⟨τ2, hstep, hu⟩ :=
    step_assign_un τ1 (tmp (k1 + 1)) op a va v h1.val hne (h1.sim.heap ▸ hop) (h1.sim.loc _)
  exact ⟨τ2, h1.push (h' := τ1.heap) (Steps.assign h1.sim.budget hstep) h1.sim hu⟩

theorem Computes.copy {s1 : List Stmt} {a : Opd} {k k1 : Nat} {τ τ1 σ1 : State} {v : Val}
    (h1 : Computes s1 a k k1 τ τ1 σ1 v) :
    ∃ τ2, Computes (s1 ++ [.assign (tmp (k1 + 1)) "" a none]) (.var (tmp (k1 + 1))) k (k1 + 1) τ τ2 σ1 v := by
  obtain ⟨τ2, hstep, hu⟩ := step_assign_copy τ1 (tmp (k1 + 1)) a v h1.val (h1.sim.loc _)
  exact ⟨τ2, h1.push (h' := τ1.heap) (Steps.assign h1.sim.budget hstep) h1.sim hu⟩

/-- what `exec`, and the source interpreters `execP` and `execS`, do with the result of a nested list. -/
def andThen (r : Outcome × State) (k : State → Outcome × State) : Outcome × State :=
  match r with
  | (.normal, σ) => k σ
  | r => r

theorem andThen_stop {o : Outcome} (σ : State) (k : State → Outcome × State) (h : o ≠ .normal) :
    andThen (o, σ) k = (o, σ) := by
  cases o with
  | normal => exact absurd rfl h
  | _ => rfl

theorem andThen_pure (r : Outcome × State) : andThen r (fun σ => (.normal, σ)) = r := by
  obtain ⟨o, σ⟩ := r; cases o <;> rfl

theorem andThen_cases {r r' : Outcome × State} {k : State → Outcome × State} (h : andThen r k = r') :
    (∃ σ, r = (.normal, σ) ∧ k σ = r') ∨ (r.1 ≠ .normal ∧ r = r') := by
  obtain ⟨o, σ⟩ := r
  cases o with
  | normal => exact .inl ⟨σ, rfl, h⟩
  | _ => exact .inr ⟨nofun, h⟩

theorem exec_ifS (N : Nat) (τ : State) (c : Opd) (v : Val) (t e rest : List Stmt)
    (hb : τ.budget = none) (hv : τ.evalOpd c = .ok v) :
    exec (N + 1) τ (.ifS c t e :: rest) =
      andThen (exec N τ (if τ.truthy v then t else e)) (fun τ' => exec N τ' rest) := by
  simp only [exec, State.tick, hb, hv]; rfl

theorem exec_ret (N : Nat) (τ : State) (o : Opd) (v : Val) (rest : List Stmt)
    (hb : τ.budget = none) (hv : τ.evalOpd o = .ok v) :
    exec (N + 1) τ (.ret o :: rest) = (.ret v, τ) := by
  simp only [exec, State.tick, hb, hv]

/-- the bound `c` covers the nesting of `if`s. -/
def Runs (ss : List Stmt) (τ τ' : State) (o : Outcome) : Prop :=
  ∃ c, ∀ rest N, c ≤ N → exec (N + ss.length) τ (ss ++ rest) = andThen (o, τ') (fun τ'' => exec N τ'' rest)

/-- the outcomes the statement theorems of C01 and C02 speak of. -/
abbrev Done (o : Outcome) : Prop := o = .normal ∨ ∃ w, o = .ret w

theorem Done.ne_err {o : Outcome} (h : Done o) (er : String) : o ≠ .err er := by
  rcases h with rfl | ⟨w, rfl⟩ <;> nofun

theorem Steps.runs {ss : List Stmt} {τ τ' : State} (h : Steps ss τ τ') : Runs ss τ τ' .normal :=
  ⟨0, fun rest N _ => h rest N⟩

theorem Runs.exec_eq {ss : List Stmt} {τ τ' : State} {o : Outcome} (h : Runs ss τ τ' o) :
    ∃ c, ∀ N, c ≤ N → exec N τ ss = (o, τ') := by
  obtain ⟨c, h⟩ := h
  refine ⟨c + ss.length + 1, fun N hN => ?_⟩
  -- one unit of fuel is left when the list has ended, so the empty rest ends normally
  obtain ⟨M, rfl⟩ : ∃ M, N = (M + 1) + ss.length := ⟨N - ss.length - 1, by omega⟩
  have := h [] (M + 1) (by omega)
  rw [List.append_nil] at this
  exact this.trans (andThen_pure (o, τ'))

theorem Runs.append {a b : List Stmt} {τ τ1 τ2 : State} {o : Outcome} (h1 : Runs a τ τ1 .normal)
    (h2 : Runs b τ1 τ2 o) : Runs (a ++ b) τ τ2 o := by
  obtain ⟨c1, h1⟩ := h1
  obtain ⟨c2, h2⟩ := h2
  refine ⟨c1 + c2, fun rest N hN => ?_⟩
  -- `a` runs with `N + b.length` above its own length, `b` then with `N`: both bounds are met
  rw [exec_append, h1 _ _ (Nat.le_add_right_of_le (Nat.le_trans (Nat.le_add_right c1 c2) hN))]
  exact h2 rest N (Nat.le_trans (Nat.le_add_left c2 c1) hN)

theorem Runs.stop {a : List Stmt} {τ τ1 : State} {o : Outcome} (h : Runs a τ τ1 o) (ho : o ≠ .normal)
    (b : List Stmt) : Runs (a ++ b) τ τ1 o := by
  obtain ⟨c, h⟩ := h
  refine ⟨c, fun rest N hN => ?_⟩
  rw [exec_append, h _ _ (Nat.le_add_right_of_le hN), andThen_stop _ _ ho, andThen_stop _ _ ho]

theorem Runs.ret {τ : State} {o : Opd} {v : Val} (hb : τ.budget = none) (hv : τ.evalOpd o = .ok v) :
    Runs [.ret o] τ τ (.ret v) :=
  ⟨0, fun rest N _ => exec_ret N τ o v rest hb hv⟩

/-- the arm runs one level deeper, with the fuel left after the `if`. -/
theorem Runs.ifS {τ τ' : State} {c : Opd} {v : Val} {t e : List Stmt} {o : Outcome}
    (hb : τ.budget = none) (hv : τ.evalOpd c = .ok v)
    (h : Runs (if τ.truthy v then t else e) τ τ' o) : Runs [.ifS c t e] τ τ' o := by
  obtain ⟨m, h⟩ := h.exec_eq
  refine ⟨m, fun rest N hN => ?_⟩
  show exec (N + 1) τ (.ifS c t e :: rest) = _
  rw [exec_ifS N τ c v t e rest hb hv, h N hN]

theorem Steps.then_runs {P : State → Prop} {head rest : List Stmt} {τ τ2 : State} {o : Outcome}
    (hst : Steps head τ τ2) (h : ∃ τ', P τ' ∧ Runs rest τ2 τ' o) : ∃ τ', P τ' ∧ Runs (head ++ rest) τ τ' o :=
  let ⟨τ', hp, hr⟩ := h; ⟨τ', hp, hst.runs.append hr⟩

theorem Computes.ifS {sc : List Stmt} {oc : Opd} {k k1 : Nat} {τ τ1 τ2 σ1 : State} {vc : Val}
    {bt be : List Stmt} {o : Outcome} (c : Computes sc oc k k1 τ τ1 σ1 vc)
    (h : Runs (if τ1.truthy vc then bt else be) τ1 τ2 o) : Runs (sc ++ [.ifS oc bt be]) τ τ2 o :=
  c.steps.runs.append (Runs.ifS c.sim.budget c.val h)

theorem Computes.ret {sc : List Stmt} {oc : Opd} {k k1 : Nat} {τ τ1 σ1 : State} {v : Val}
    (c : Computes sc oc k k1 τ τ1 σ1 v) (rest : List Stmt) : Runs ((sc ++ [.ret oc]) ++ rest) τ τ1 (.ret v) :=
  (c.steps.runs.append (Runs.ret c.sim.budget c.val)).stop nofun rest

/-- the source ran a head with result `r` and, after a normal end, the rest `k`; `R` is the invariant. -/
theorem sim_seq {R : State → State → Prop} {head rest : List Stmt} {τ σ' : State} {r : Outcome × State}
    {k : State → Outcome × State} {o : Outcome} (h : andThen r k = (o, σ')) (ho : Done o)
    (hhead : Done r.1 → ∃ τ2, R r.2 τ2 ∧ Runs head τ τ2 r.1)
    (hrest : ∀ τ2, R r.2 τ2 → k r.2 = (o, σ') → ∃ τ', R σ' τ' ∧ Runs rest τ2 τ' o) :
    ∃ τ', R σ' τ' ∧ Runs (head ++ rest) τ τ' o := by
  obtain ⟨σ2, rfl, h5⟩ | ⟨hn, rfl⟩ := andThen_cases h
  · obtain ⟨τ2, h2, hr⟩ := hhead (.inl rfl)
    obtain ⟨τ', h', hruns⟩ := hrest τ2 h2 h5
    exact ⟨τ', h', hr.append hruns⟩
  · obtain ⟨τ2, h2, hr⟩ := hhead ho
    exact ⟨τ2, h2, hr.stop hn _⟩

/-- `b`: the arm the source took, as the target does; `ht`, `he`, `hrest` are induction hypotheses. -/
theorem Computes.ifS_seq {R : State → State → Prop} {sc bt be rest : List Stmt} {oc : Opd} {k k1 : Nat}
    {τ τ1 σ1 σ' : State} {vc : Val} {b : Bool} {rt re : Outcome × State} {krest : State → Outcome × State}
    {o : Outcome} (c : Computes sc oc k k1 τ τ1 σ1 vc) (hb : τ1.truthy vc = b)
    (h : andThen (if b then rt else re) krest = (o, σ')) (ho : Done o)
    (ht : Done rt.1 → ∃ τ2, R rt.2 τ2 ∧ Runs bt τ1 τ2 rt.1)
    (he : Done re.1 → ∃ τ2, R re.2 τ2 ∧ Runs be τ1 τ2 re.1)
    (hrest : ∀ σ2 τ2, R σ2 τ2 → krest σ2 = (o, σ') → ∃ τ', R σ' τ' ∧ Runs rest τ2 τ' o) :
    ∃ τ', R σ' τ' ∧ Runs ((sc ++ [.ifS oc bt be]) ++ rest) τ τ' o := by
  refine sim_seq h ho (fun hob => ?_) (hrest _)
  have harm : ∃ τ2, R (if b then rt else re).2 τ2 ∧
      Runs (if τ1.truthy vc then bt else be) τ1 τ2 (if b then rt else re).1 := by
    rw [hb]; cases b
    · exact he hob
    · exact ht hob
  obtain ⟨τ2, h2, hr⟩ := harm
  exact ⟨τ2, h2, c.ifS hr⟩

def State.decl (σ : State) (fp : Nat) (f : Frame) (x : String) : State :=
  σ.setFrame fp (if alHas f.vars x then f else { f with vars := f.vars ++ [(x, none)] })

/-- the frame after `variable_decl x`. -/
def declFrame (f : Frame) (x : String) : Frame :=
  if alHas f.vars x then f else { f with vars := f.vars ++ [(x, none)] }

theorem declFrame_globals (f : Frame) (x : String) : (declFrame f x).globals = f.globals := by
  unfold declFrame; split <;> rfl

theorem declFrame_nonlocals (f : Frame) (x : String) : (declFrame f x).nonlocals = f.nonlocals := by
  unfold declFrame; split <;> rfl

theorem declFrame_get_ne (f : Frame) (x y : String) (h : y ≠ x) :
    alGet (declFrame f x).vars y = alGet f.vars y := by
  unfold declFrame; split
  · rfl
  · exact alGet_append_ne f.vars x y none h

theorem declFrame_has (f : Frame) (x y : String) (h : alHas f.vars y = true) :
    alHas (declFrame f x).vars y = true := by
  unfold declFrame; split
  · exact h
  · by_cases hxy : y = x
    · subst hxy; simp_all
    · rw [alHas_append_ne f.vars x y none hxy]; exact h

theorem step_varDecl (τ : State) (x : String) (hl : τ.Loc x) :
    ∃ τ', stepSimple τ (.varDecl x) = some (.ok τ') ∧ τ.AgreeOff τ' x := by
  obtain ⟨fp, rest, f, henv, hf, _, _⟩ := hl
  exact ⟨τ.setFrame fp (declFrame f x), by simp only [stepSimple, State.modFrame, henv, hf, declFrame],
    agreeOff_setFrame τ fp f _ x hf (declFrame_globals f x) (declFrame_nonlocals f x) (declFrame_get_ne f x)⟩

/-- for the statements, which write named variables: these too are plain locals, on both sides. -/
structure Sim2 (σ τ : State) : Prop extends Sim σ τ where
  sloc : ∀ x, σ.Loc x
  tloc : ∀ x, τ.Loc x

theorem Sim2.refl {σ : State} (hb : σ.budget = none) (hloc : ∀ x, σ.Loc x) : Sim2 σ σ :=
  ⟨.refl hb fun _ => hloc _, hloc, hloc⟩

theorem Sim2.withHeap {σ τ : State} (hs : Sim2 σ τ) (h : List Obj) :
    Sim2 { σ with heap := h } { τ with heap := h } :=
  ⟨hs.toSim.withHeap h, hs.sloc, hs.tloc⟩

theorem Sim2.withOut {σ τ : State} (hs : Sim2 σ τ) (v : Val) :
    Sim2 { σ with out := σ.render v :: σ.out } { τ with out := τ.render v :: τ.out } :=
  ⟨hs.toSim.withOut v, hs.sloc, hs.tloc⟩

theorem Sim2.write {σ τ τ' : State} {n : Nat} {v : Val} (hs : Sim2 σ τ) (hu : τ.Upd τ' (tmp n) v) : Sim2 σ τ' :=
  ⟨hs.toSim.write hu, hs.sloc, fun y => hu.loc y (hs.tloc y)⟩

theorem Sim2.upd {σ τ σ' τ' : State} {x : String} {v : Val} (hs : Sim2 σ τ) (hσ : σ.Upd σ' x v)
    (hτ : τ.Upd τ' x v) : Sim2 σ' τ' := by
  refine ⟨⟨hσ.heap.trans (hs.heap.trans hτ.heap.symm), hσ.env.trans (hs.env.trans hτ.env.symm),
    hσ.out.trans (hs.out.trans hτ.out.symm), hτ.budget.trans hs.budget, fun y hy => ?_,
    fun _ => hτ.loc _ (hs.tloc _)⟩, fun y => hσ.loc y (hs.sloc y), fun y => hτ.loc y (hs.tloc y)⟩
  by_cases hxy : y = x
  · rw [hxy, hσ.get, hτ.get]
  · rw [hσ.other y hxy, hτ.other y hxy]; exact hs.look y hy

theorem Sim2.set {σ τ σ' : State} {x : String} {o : Opd} {v : Val} (hs : Sim2 σ τ)
    (hv : τ.evalOpd o = .ok v) (hσ : σ.Upd σ' x v) :
    ∃ τ', Sim2 σ' τ' ∧ Steps [.assign x "" o none] τ τ' := by
  obtain ⟨τ', hstep, hu⟩ := step_assign_copy τ x o v hv (hs.tloc x)
  exact ⟨τ', hs.upd hσ hu, Steps.assign hs.budget hstep⟩

/-- `variable_decl x` then `x = o`: the declaration stands between the evaluation of `o` and the
write, so `o` must not be `x` itself. -/
theorem Sim2.declset {σ τ σ' : State} {x : String} {o : Opd} {v : Val} (hs : Sim2 σ τ)
    (hv : τ.evalOpd o = .ok v) (hox : o ≠ .var x) (hσ : σ.Upd σ' x v) :
    ∃ τ', Sim2 σ' τ' ∧ Steps [.varDecl x, .assign x "" o none] τ τ' := by
  obtain ⟨τd, hstepd, hoff⟩ := step_varDecl τ x (hs.tloc x)
  have hvd : τd.evalOpd o = .ok v := by
    cases o with
    | lit c => exact hv
    | var y => exact (hoff.other y fun e => hox (congrArg Opd.var e)).trans hv
  obtain ⟨τ', hstep, hu⟩ := step_assign_copy τd x o v hvd (hoff.loc x (hs.tloc x))
  exact ⟨τ', hs.upd hσ (hoff.upd hu),
    (Steps.varDecl hs.budget hstepd).append (Steps.assign (hoff.budget.trans hs.budget) hstep)⟩

theorem Sim2.setBin {σ τ σ' : State} {x op : String} {a b : Opd} {va vb v : Val} {h' : List Obj}
    (hs : Sim2 σ τ) (ha : τ.evalOpd a = .ok va) (hb : τ.evalOpd b = .ok vb)
    (hop : binopH σ.heap op va vb = .ok (v, h')) (hσ : ({ σ with heap := h' } : State).Upd σ' x v) :
    ∃ τ', Sim2 σ' τ' ∧ Steps [.assign x op a (some b)] τ τ' := by
  obtain ⟨τ', hstep, hu⟩ := step_assign_bin τ x op a b va vb v h' ha hb (hs.heap ▸ hop) (hs.tloc x)
  exact ⟨τ', (hs.withHeap h').upd hσ hu, Steps.assign hs.budget hstep⟩

end LianVerif.LowerPy
