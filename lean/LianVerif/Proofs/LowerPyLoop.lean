/-
`while` and `break` on both sides of the Python lowering.  `lowerB_sim` does not
cover loops: `Steps` and `Runs` count one unit of fuel per statement of the list, a loop spends one per
iteration; a simulation of `while` needs `exec` monotone in the fuel and a big-step form of the statement.
Here are the steps it starts from: how `exec` runs `break` and the emitted loop, and that a `continue`-free
source body never ends by `continue`.
-/
import LianVerif.Proofs.LowerPyStmt

namespace LianVerif.LowerPy
open LianVerif.Gir LianVerif.PySrc

theorem exec_brk (N : Nat) (τ : State) (rest : List Stmt) (hb : τ.budget = none) :
    exec (N + 1) τ (.brk :: rest) = (.brk, τ) := by
  simp only [exec, State.tick, hb]

theorem exec_if_brk (N : Nat) (τ τ' : State) (c : Opd) (v : Val) (t e rest : List Stmt)
    (hb : τ.budget = none) (hv : τ.evalOpd c = .ok v)
    (hbr : exec N τ (if τ.truthy v then t else e) = (.brk, τ')) :
    exec (N + 1) τ (.ifS c t e :: rest) = (.brk, τ') := by
  rw [exec_ifS N τ c v t e rest hb hv, hbr]; rfl

/-! `N + 2`: the loop statement takes one unit; its body, and what runs after the iteration, get `N + 1`. -/

theorem loop_true_normal (N : Nat) (τ τ2 : State) (c : Opd) (v : Val) (body rest : List Stmt)
    (hb : τ.budget = none) (hv : τ.evalOpd c = .ok v) (ht : τ.truthy v = true)
    (hbody : exec (N + 1) τ body = (.normal, τ2)) :
    exec (N + 2) τ (.loop c [] body [] [] :: rest) = exec (N + 1) τ2 (.loop c [] body [] [] :: rest) := by
  simp only [exec, State.tick, hb, hv, ht, if_true, hbody]

theorem loop_true_brk (N : Nat) (τ τ2 : State) (c : Opd) (v : Val) (body rest : List Stmt)
    (hb : τ.budget = none) (hv : τ.evalOpd c = .ok v) (ht : τ.truthy v = true)
    (hbody : exec (N + 1) τ body = (.brk, τ2)) :
    exec (N + 2) τ (.loop c [] body [] [] :: rest) = exec (N + 1) τ2 rest := by
  simp only [exec, State.tick, hb, hv, ht, if_true, hbody]

theorem loop_true_ret (N : Nat) (τ τ2 : State) (c : Opd) (v w : Val) (body rest : List Stmt)
    (hb : τ.budget = none) (hv : τ.evalOpd c = .ok v) (ht : τ.truthy v = true)
    (hbody : exec (N + 1) τ body = (.ret w, τ2)) :
    exec (N + 2) τ (.loop c [] body [] [] :: rest) = (.ret w, τ2) := by
  simp only [exec, State.tick, hb, hv, ht, if_true, hbody]

theorem loop_false (N : Nat) (τ : State) (c : Opd) (v : Val) (body rest : List Stmt)
    (hb : τ.budget = none) (hv : τ.evalOpd c = .ok v) (ht : τ.truthy v = false) :
    exec (N + 2) τ (.loop c [] body [] [] :: rest) = exec (N + 1) τ rest := by
  simp only [exec, State.tick, hb, hv, ht, Bool.false_eq_true, if_false]

mutual
def stmtFragW : PStmt → Bool
  | .assign x e => pureFrag e && !isNameOf e x
  | .aug _ _ e => pureFrag e
  | .exprS e => pureFrag e
  | .ifS c t e => pureFrag c && bodyFragW t && bodyFragW e
  | .whileS c b => pureFrag c && bodyFragW b
  | .pass => true
  | .brk => true
  | .ret e => pureFrag e
  | _ => false

def bodyFragW : List PStmt → Bool
  | [] => true
  | s :: r => stmtFragW s && bodyFragW r
end

def OKO (o : Outcome) : Prop := o = .normal ∨ (∃ w, o = .ret w) ∨ o = .brk

theorem not_OKO_err (e : String) : ¬ OKO (.err e) := by
  intro h; rcases h with h | ⟨w, h⟩ | h <;> cases h

theorem not_OKO_cont : ¬ OKO .cont := by
  intro h; rcases h with h | ⟨w, h⟩ | h <;> cases h

theorem execP_no_cont (fns : Prog) : ∀ (fuel : Nat) (B : List PStmt) (σ σ' : State) (o : Outcome),
    bodyFragW B = true → execP fns fuel σ B = (o, σ') → o ≠ .cont := by
  intro fuel
  induction fuel with
  | zero => intro B σ σ' o _ h; cases h; nofun
  | succ f ih =>
    intro B σ σ' o hfrag h
    -- suppose it did; `continue` is not an error, so the inversions of `execP` apply
    rintro rfl
    have hne : ∀ er, Outcome.cont ≠ .err er := nofun
    cases B with
    | nil => cases h
    | cons s B' =>
      simp only [bodyFragW, Bool.and_eq_true] at hfrag
      obtain ⟨hsf, hBf⟩ := hfrag
      cases s with
      | pass => exact ih B' σ σ' _ hBf h rfl
      | brk => cases h
      | cont => cases hsf
      | globalS _ => cases hsf
      | assign x e =>
        obtain ⟨_, _, σ2, _, _, h3⟩ := execP_assign h hne
        exact ih B' σ2 σ' _ hBf h3 rfl
      | exprS e =>
        obtain ⟨_, σ1, _, h3⟩ := execP_exprS h hne
        exact ih B' σ1 σ' _ hBf h3 rfl
      | ret e =>
        obtain ⟨_, _, h3⟩ := execP_ret h hne
        cases h3
      | aug x op e =>
        obtain ⟨_, _, _, _, _, σ3, _, _, _, _, h3⟩ := execP_aug h hne
        exact ih B' σ3 σ' _ hBf h3 rfl
      | ifS c t e =>
        simp only [stmtFragW, Bool.and_eq_true] at hsf
        obtain ⟨vc, σ1, _, h3⟩ := execP_ifS h hne
        obtain ⟨σ2, _, h5⟩ | ⟨_, h4⟩ := andThen_cases h3
        · exact ih B' σ2 σ' _ hBf h5 rfl
        · split at h4
          · exact ih t σ1 σ' _ hsf.1.2 h4 rfl
          · exact ih e σ1 σ' _ hsf.2 h4 rfl
      | whileS c b =>
        simp only [stmtFragW, Bool.and_eq_true] at hsf
        have hW : bodyFragW (.whileS c b :: B') = true := by
          simp only [bodyFragW, stmtFragW, Bool.and_eq_true]; exact ⟨hsf, hBf⟩
        simp only [execP] at h
        split at h
        next => cases h
        next vc σ1 _ =>
          split at h
          next =>
            split at h
            next σ2 _ => exact ih _ σ2 σ' _ hW h rfl          -- normal: the loop again
            next σ2 _ => exact ih _ σ2 σ' _ hW h rfl          -- `continue`: the loop again
            next σ2 _ => exact ih B' σ2 σ' _ hBf h rfl        -- `break`: what follows the loop
            next => exact ih b σ1 σ' _ hsf.2 h rfl            -- anything else ends the list
          next => exact ih B' σ1 σ' _ hBf h rfl

end LianVerif.LowerPy
