/-
The specification alone: scan positions are positions of the frame, queries (`Op.isQuery`, defined
here) leave the frame as it is, every reachable frame is well-formed.
-/
import LianVerif.Proofs.FrameWF
import LianVerif.Spec.Scan

namespace LianVerif.Table

def Op.isQuery : Op → Bool
  | .len | .isEmpty | .getRows | .iter | .accessPos _ | .accessList _ | .accessLoc _ _ | .column _
  | .queryIdx _ _ | .queryTable _ _ | .queryFirst _ _ | .searchBlock _ | .readBlock _ _
  | .readBlockWith _ _ | .boundary _ | .slowQueryEq _ _ _ _ | .slowQueryIsin _ _ _
  | .slowQueryLabels _ _ | .toDicts | .slice _ _ | .clone => true
  | _ => false

theorem query_not_rebinds {op : Op} (h : op.isQuery = true) : op.rebinds = false := by
  cases op <;> first | rfl | cases h

end LianVerif.Table

namespace LianVerif.Scan
open LianVerif.Table LianVerif.Table.Frame

theorem mem_scanFrom {col : List Cell} {v : Cell} :
    ∀ {s p : Nat}, p ∈ scanFrom s col v ↔ ∃ i, p = s + i ∧ col[i]? = some v := by
  induction col with
  | nil => simp [scanFrom]
  | cons c cs ih =>
    intro s p
    have : p ∈ scanFrom s (c :: cs) v ↔ (c = v ∧ p = s) ∨ p ∈ scanFrom (s + 1) cs v := by
      simp only [scanFrom]; split <;> simp [*]
    rw [this, ih]
    constructor
    · rintro (⟨rfl, rfl⟩ | ⟨i, rfl, hi⟩)
      · exact ⟨0, rfl, rfl⟩
      · exact ⟨i + 1, Nat.succ_add_eq_add_succ s i, hi⟩
    · rintro ⟨_ | i, rfl, hi⟩
      · exact .inl ⟨by simpa using hi, rfl⟩
      · exact .inr ⟨i, (Nat.succ_add_eq_add_succ s i).symm, hi⟩

theorem column_length {f : Frame} {c : String} {col : List Cell} (h : f.column c = some col) :
    col.length = f.rows.length := by
  unfold Frame.column at h
  split at h <;> cases h
  exact List.length_map _

theorem queryIdx_cases (f : Frame) (c : String) (v : Cell) :
    Scan.queryIdx f c v = .error .quit ∨
    ∃ l, Scan.queryIdx f c v = .ok l ∧ ∀ p ∈ l, p < f.rows.length := by
  unfold Scan.queryIdx
  split
  · exact .inr ⟨[], rfl, nofun⟩
  · cases hc : f.column c with
    | none => exact .inl rfl
    | some col =>
      refine .inr ⟨_, rfl, fun p hp => ?_⟩
      obtain ⟨i, rfl, hi⟩ := mem_scanFrom.1 hp
      rw [← column_length hc, Nat.zero_add]
      exact (List.getElem?_eq_some_iff.1 hi).1

theorem queryIdx_lt {f : Frame} {c : String} {v : Cell} {l : List Nat}
    (h : Scan.queryIdx f c v = .ok l) : ∀ p ∈ l, p < f.rows.length := by
  obtain e | ⟨l', e, h'⟩ := queryIdx_cases f c v <;> cases h.symm.trans e
  exact h'

theorem searchBlock_lt {f : Frame} {id : Cell} {l : List Nat}
    (h : Scan.searchBlock f id = .ok (some l)) : ∀ p ∈ l, p < f.rows.length := by
  unfold Scan.searchBlock at h
  split at h
  · cases h
  · cases hq : Scan.queryIdx f "stmt_id" id <;> rw [hq] at h <;> cases h
    exact queryIdx_lt hq

theorem wf_resetIf {f : Frame} (h : f.WF) (r : Bool) : (resetIf f r).WF := by
  cases r
  · exact h
  · exact wf_resetIndex h

def StepWF (f : Frame) (op : Op) (s : Frame × Out × Option Frame) : Prop :=
  (op.isQuery = true → s.1 = f) ∧ (f.WF → s.1.WF ∧ ∀ g, s.2.2 = some g → g.WF)

theorem StepWF.leaf {f : Frame} {op : Op} {out : Out} : StepWF f op (f, out, none) :=
  ⟨fun _ => rfl, fun h => ⟨h, nofun⟩⟩

theorem StepWF.child {f g : Frame} {op : Op} {out : Out} (hg : f.WF → g.WF) :
    StepWF f op (f, out, some g) :=
  ⟨fun _ => rfl, fun h => ⟨h, fun _ e => Option.some.inj e ▸ hg h⟩⟩

theorem StepWF.mutation {f g : Frame} {op : Op} {out : Out} (hq : op.isQuery = false)
    (hg : f.WF → g.WF) : StepWF f op (g, out, none) :=
  ⟨fun e => Bool.noConfusion (hq.symm.trans e), fun h => ⟨hg h, nofun⟩⟩

theorem StepWF.guard {f : Frame} {op : Op} {c : Prop} [Decidable c] {s s' : Frame × Out × Option Frame}
    (h : StepWF f op s) (h' : StepWF f op s') : StepWF f op (if c then s else s') := by
  by_cases hc : c
  · rw [if_pos hc]; exact h
  · rw [if_neg hc]; exact h'

theorem specStep_shape (f : Frame) (op : Op) : StepWF f op (specStep f op) := by
  cases op with dsimp only [specStep]
  | len | isEmpty | getRows | toDicts => exact .leaf
  | iter | accessPos _ | accessList _ | accessLoc _ _ | column _ | queryIdx _ _ | searchBlock _
  | boundary _ => split <;> exact .leaf
  | queryFirst c v =>
    split
    · exact .leaf
    · exact .leaf
    · split <;> exact .leaf
  | queryTable c v =>
    split
    · exact .leaf
    · exact .leaf
    · rename_i l _ _
      cases ht : f.ilocTake l with
      | none => exact .leaf
      | some g => exact .child fun h => wf_ilocTake h ht
  | readBlock id r =>
    split
    · exact .leaf
    · exact .leaf
    · exact .child fun h => wf_resetIf (wf_ilocSlice h _ _) r
    · exact .leaf
  | readBlockWith id r =>
    split
    · exact .leaf
    · exact .leaf
    · exact .child fun h => wf_resetIf (wf_ilocSlice h _ _) r
    · exact .leaf
  | slowQueryEq c v oc r =>
    cases f.column c with
    | none => exact .leaf
    | some cs =>
      cases oc with
      | some o => simp only; split <;> exact .leaf
      | none => exact .child fun h => wf_resetIf (wf_maskTake h _) r
  | slowQueryIsin c vs r =>
    cases f.column c with
    | none => exact .leaf
    | some cs => exact .child fun h => wf_resetIf (wf_maskTake h _) r
  | slowQueryLabels ls r =>
    refine .guard .leaf ?_
    cases ht : f.locTake ls with
    | none => exact .leaf
    | some g => exact .child fun h => wf_resetIf (wf_locTake h ht) r
  | slice a b => exact .child fun h => wf_ilocSlice h a b
  | clone => exact .child id
  | modifyRow i r s =>
    have hp := fun h => wf_setIloc (f := f) h i r s
    generalize f.setIloc i r s = p at hp ⊢
    obtain ⟨g, _ | e⟩ := p <;> exact .mutation rfl hp
  | modifyElement l c v r =>
    have hp := fun h => wf_setLoc (f := f) h l c v r
    generalize f.setLoc l c v r = p at hp ⊢
    obtain ⟨g, _ | e⟩ := p <;> exact .mutation rfl hp
  | modifyColumn c v =>
    cases hs : f.setCol c (List.replicate f.nrows v) with
    | ok g => exact .mutation rfl fun h => wf_setCol h hs
    | error e => exact .leaf
  | modifyColumnList c vs =>
    cases hs : f.setCol c vs with
    | ok g => exact .mutation rfl fun h => wf_setCol h hs
    | error e => exact .leaf
  | renameColumn o n => exact .guard .leaf (.mutation rfl fun h => wf_renameCol h o n)
  | append g => exact .guard .leaf (.mutation rfl wf_concat)
  | removeRows c v =>
    cases hs : f.filterNe c v with
    | some g => exact .mutation rfl fun h => wf_filterNe h hs
    | none => exact .leaf
  | resetIndex m =>
    cases m
    · exact .mutation rfl wf_resetIndex
    · cases hs : f.resetIndexMove with
      | ok g => exact .mutation rfl fun h => wf_resetIndexMove h hs
      | error e => exact .leaf
  | fillna v => exact .mutation rfl fun h => wf_fillna h v
  | setColumns ns =>
    refine .guard .leaf ?_
    cases hs : f.setColumns ns with
    | ok g => exact .mutation rfl fun h => wf_setColumns h hs
    | error e => exact .leaf
  | saveLoad ok =>
    cases ok
    · exact .mutation rfl wf_resetIndex
    · exact ⟨nofun, fun h => ⟨wf_resetIndex h, fun _ e => Option.some.inj e ▸ wf_resetIndex h⟩⟩

theorem query_frame {op : Op} (h : op.isQuery = true) (f : Frame) : (specStep f op).1 = f :=
  (specStep_shape f op).1 h

theorem specStep_wf {f : Frame} (h : f.WF) (op : Op) :
    (specStep f op).1.WF ∧ ∀ g, (specStep f op).2.2 = some g → g.WF :=
  (specStep_shape f op).2 h

def SWorld.WF (w : SWorld) : Prop := w.cur.WF ∧ ∀ o, w.other = some o → o.WF

theorem specStepW_wf {w : SWorld} (h : w.WF) (op : WOp) : (specStepW w op).1.WF := by
  obtain ⟨cur, other⟩ := w
  obtain ⟨hc, ho⟩ := h
  cases op with
  | on op enter =>
    have hs := specStep_wf hc op
    dsimp only [specStepW]
    generalize specStep cur op = s at hs ⊢
    obtain ⟨f', out, _ | c⟩ := s
    · exact ⟨hs.1, ho⟩
    · cases enter
      · exact ⟨hs.1, ho⟩
      · exact ⟨hs.2 c rfl, fun _ e => Option.some.inj e ▸ hs.1⟩
  | swap =>
    cases other with
    | none => exact ⟨hc, ho⟩
    | some o => exact ⟨ho o rfl, fun _ e => Option.some.inj e ▸ hc⟩
  | appendOther =>
    cases other with
    | none => exact ⟨hc, ho⟩
    | some o => exact ⟨(specStep_wf hc (.append o)).1, ho⟩

theorem specRun_wf (ops : List WOp) :
    ∀ w : SWorld, w.WF → (specRun w ops).1.WF ∧ ∀ o ∈ (specRun w ops).2, o.2.WF := by
  induction ops with
  | nil => intro w h; exact ⟨h, fun _ ho => nomatch ho⟩
  | cons op ops ih =>
    intro w h
    have h1 := specStepW_wf h op
    obtain ⟨i1, i2⟩ := ih _ h1
    refine ⟨i1, fun o ho => ?_⟩
    rcases List.mem_cons.1 ho with rfl | ho
    · exact h1.1
    · exact i2 o ho

/-- `ofDicts` fills every dict up to the union of the keys, hence no condition there -/
def CtorWF : Ctor → Prop
  | .rows cs rs _ => ∀ r ∈ rs, r.length = cs.length
  | .dicts _ => True
  | .frame f _ => f.WF
  | .load f => f.WF

theorem specInit_wf {c : Ctor} (h : CtorWF c) : (specInit c).WF := by
  cases c with
  | rows cs rs reset => exact ⟨wf_resetIf (wf_ofRows h) reset, nofun⟩
  | dicts ds => exact ⟨wf_ofDicts ds, nofun⟩
  | frame f reset => exact ⟨wf_resetIf h reset, nofun⟩
  | load f => exact ⟨h, nofun⟩

theorem rowAt_ok {f : Frame} (h : f.labels.length = f.rows.length) (i : Int) : ∃ r, Scan.rowAt f i = .ok r := by
  unfold Scan.rowAt
  split
  · rename_i hi
    rw [List.getElem?_eq_getElem (h ▸ (Int.toNat_lt hi.1).2 hi.2)]
    exact ⟨_, rfl⟩
  · exact ⟨_, rfl⟩

theorem rowsAt_ok {f : Frame} (h : f.labels.length = f.rows.length) (is : List Int) : ∃ l, Scan.rowsAt f is = .ok l := by
  induction is with
  | nil => exact ⟨[], rfl⟩
  | cons i is ih =>
    obtain ⟨r, hr⟩ := rowAt_ok h i
    obtain ⟨l, hl⟩ := ih
    exact ⟨r :: l, by simp only [Scan.rowsAt, hr, hl]⟩

end LianVerif.Scan
