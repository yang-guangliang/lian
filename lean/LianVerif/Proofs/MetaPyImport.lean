/-
C12, the import preprocessor.  A dotted name and its replacement have the same length, so a
substitution keeps the length of a line, and it leaves alone every column of a span all of whose
overlapping matches are kept.
-/
import LianVerif.Model.PyImportPre
import LianVerif.Proofs.ListAux

namespace LianVerif.PyImportPre

theorem run_length (keys : List Line) (lines : List Line) (spans : List Spans) :
    (run keys lines spans).length = lines.length := by
  induction lines generalizing keys spans with
  | nil => rfl
  | cons l ls ih => simp only [run, List.length_cons, ih]

theorem matchAt_prefix {old : Line} {prev : Option Char} {rest : Line} (h : matchAt old prev rest = true) :
    old <+: rest ∧ old ≠ [] := by
  unfold matchAt at h
  simp only [Bool.and_eq_true, Bool.not_eq_true', List.isEmpty_eq_false_iff, List.isPrefixOf_iff_prefix] at h
  exact ⟨h.1.1.2, h.1.1.1⟩

theorem subAux_of_not_infix (old new : Line) (keep : Nat → Nat → Bool) :
    ∀ (l : Line) (pos : Nat) (prev : Option Char), ¬ old <:+: l → subAux old new keep 0 pos prev l = l := by
  intro l
  induction l with
  | nil => intro pos prev _; rfl
  | cons c cs ih =>
    intro pos prev h
    have hm : matchAt old prev (c :: cs) = false := by
      cases hmm : matchAt old prev (c :: cs) with
      | false => rfl
      | true => exact absurd (matchAt_prefix hmm).1.isInfix h
    rw [subAux, if_neg (by rw [hm]; exact Bool.false_ne_true)]
    rw [ih (pos + 1) (some c) (fun hi => h (hi.trans (List.suffix_cons c cs).isInfix))]

theorem subWord_of_not_infix (old new : Line) (keep : Nat → Nat → Bool) (l : Line) (h : ¬ old <:+: l) :
    subWord old new keep l = l := subAux_of_not_infix old new keep l 0 none h

theorem rewriteLine_of_not_infix (keep : Nat → Nat → Bool) (l : Line) :
    ∀ (keys : List Line), (∀ k ∈ keys, ¬ k <:+: l) → rewriteLine keys keep l = l := by
  intro keys
  unfold rewriteLine
  induction keys with
  | nil => intro _; rfl
  | cons k ks ih =>
    intro h
    rw [List.foldl_cons, subWord_of_not_infix k (under k) keep l (h k List.mem_cons_self)]
    exact ih (fun k' hk' => h k' (List.mem_cons_of_mem _ hk'))

theorem mem_addKey {keys : List Line} {n k : Line} : k ∈ addKey keys n ↔ k ∈ keys ∨ k = n := mem_addUnless

theorem mem_addKeys {names keys : List Line} {k : Line} :
    k ∈ addKeys keys names ↔ k ∈ keys ∨ (k ∈ names ∧ hasDot k = true) := by
  refine (foldl_or_iff (P := (k ∈ ·)) (Q := fun n => hasDot n = true ∧ k = n) (fun ks n => ?_) names keys).trans
    (or_congr_right ⟨fun ⟨n, hn, hd, e⟩ => e ▸ ⟨hn, hd⟩, fun ⟨hn, hd⟩ => ⟨k, hn, hd, rfl⟩⟩)
  split
  · rw [mem_addKey, and_iff_right ‹_›]
  · exact (or_iff_left fun h => ‹¬ _› h.1).symm

theorem under_length (n : Line) : (under n).length = n.length := by simp [under]

theorem getElem?_of_prefix {old l : Line} (h : old <+: l) {j : Nat} (hj : j < old.length) : l[j]? = old[j]? := by
  obtain ⟨t, rfl⟩ := h
  exact List.getElem?_append_left hj

def Guarded (keep : Nat → Nat → Bool) (col : Nat) : Prop := ∀ a b, a ≤ col → col < b → keep a b = true

theorem matchAt_succ {old : Line} {prev : Option Char} {rest : Line} (h : matchAt old prev rest = true) :
    ∃ a, old.length = a + 1 :=
  Nat.exists_eq_succ_of_ne_zero (mt List.length_eq_zero_iff.1 (matchAt_prefix h).2)

theorem subAux_length (old new : Line) (keep : Nat → Nat → Bool) (hlen : new.length = old.length) :
    ∀ (l : Line) (skip pos : Nat) (prev : Option Char),
      (subAux old new keep skip pos prev l).length = l.length - skip := by
  intro l
  induction l with
  | nil => intro skip pos prev; cases skip <;> simp [subAux]
  | cons c cs ih =>
    intro skip pos prev
    cases skip with
    | succ k => rw [subAux, ih, List.length_cons, Nat.add_sub_add_right]
    | zero =>
      rw [subAux]
      split
      · rename_i hm
        obtain ⟨a, ha⟩ := matchAt_succ hm
        have h1 : a ≤ cs.length := by
          have := (matchAt_prefix hm).1.length_le
          rw [ha, List.length_cons] at this
          exact Nat.le_of_succ_le_succ this
        have : (if keep pos (pos + old.length) = true then old else new).length = a + 1 := by
          split <;> simp only [hlen, ha]
        rw [List.length_append, ih, this, ha, Nat.add_sub_cancel, List.length_cons, Nat.sub_zero,
          Nat.add_right_comm, Nat.add_sub_cancel' h1]
      · rw [List.length_cons, ih, List.length_cons, Nat.sub_zero, Nat.sub_zero]

/-- `pos + skip + j` is the column, in the original line, of the `j`-th character still to come out;
the three cases keep that sum fixed. -/
theorem subAux_getElem? (old new : Line) (keep : Nat → Nat → Bool) (hlen : new.length = old.length) :
    ∀ (l : Line) (skip pos : Nat) (prev : Option Char) (j : Nat), Guarded keep (pos + skip + j) →
      (subAux old new keep skip pos prev l)[j]? = l[skip + j]? := by
  intro l
  induction l with
  | nil => intro skip pos prev j _; cases skip <;> rfl
  | cons c cs ih =>
    intro skip pos prev j hg
    cases skip with
    | succ k =>
      rw [subAux, ih k (pos + 1) (some c) j (by rwa [Nat.add_assoc pos 1 k, Nat.add_comm 1 k]),
        Nat.add_right_comm k 1 j, List.getElem?_cons_succ]
    | zero =>
      rw [subAux]
      split
      · rename_i hm
        obtain ⟨a, ha⟩ := matchAt_succ hm
        have hw : (if keep pos (pos + old.length) = true then old else new).length = a + 1 := by
          split <;> simp only [hlen, ha]
        by_cases hj : j < a + 1
        · -- inside the match: it is kept
          have hk : keep pos (pos + old.length) = true :=
            hg pos _ (Nat.le_add_right pos j) (Nat.add_lt_add_left (ha ▸ hj) pos)
          rw [if_pos hk, List.getElem?_append_left (ha ▸ hj), Nat.zero_add]
          exact (getElem?_of_prefix (matchAt_prefix hm).1 (ha ▸ hj)).symm
        · obtain ⟨j', rfl⟩ := Nat.exists_eq_add_of_le (Nat.le_of_not_lt hj)
          rw [List.getElem?_append_right (hw ▸ Nat.le_add_right _ j'), hw, ha, Nat.add_sub_cancel,
            Nat.add_sub_cancel_left,
            ih a (pos + 1) (some c) j' (by rwa [Nat.add_assoc pos 1 a, Nat.add_comm 1 a, Nat.add_assoc pos]),
            Nat.zero_add, Nat.add_right_comm a 1 j', List.getElem?_cons_succ]
      · cases j with
        | zero => rfl
        | succ j' =>
          rw [List.getElem?_cons_succ,
            ih 0 (pos + 1) (some c) j' (by rwa [Nat.add_zero, Nat.add_right_comm pos 1 j']),
            Nat.zero_add, Nat.zero_add, List.getElem?_cons_succ]

theorem subWord_length (old : Line) (keep : Nat → Nat → Bool) (l : Line) :
    (subWord old (under old) keep l).length = l.length := by
  unfold subWord; rw [subAux_length old (under old) keep (under_length old)]; simp

theorem subWord_getElem? (old : Line) (keep : Nat → Nat → Bool) (l : Line) (j : Nat) (hg : Guarded keep j) :
    (subWord old (under old) keep l)[j]? = l[j]? := by
  unfold subWord
  rw [subAux_getElem? old (under old) keep (under_length old) l 0 0 none j (by simpa using hg)]
  simp

theorem rewriteLine_spec (keep : Nat → Nat → Bool) : ∀ (keys : List Line) (l : Line),
    (rewriteLine keys keep l).length = l.length ∧
    ∀ j, Guarded keep j → (rewriteLine keys keep l)[j]? = l[j]? := by
  intro keys
  unfold rewriteLine
  induction keys with
  | nil => intro l; exact ⟨rfl, fun _ _ => rfl⟩
  | cons k ks ih =>
    intro l
    rw [List.foldl_cons]
    obtain ⟨h1, h2⟩ := ih (subWord k (under k) keep l)
    refine ⟨by rw [h1, subWord_length], fun j hg => ?_⟩
    rw [h2 j hg, subWord_getElem? k keep l j hg]

theorem guarded_of_span {spans : Spans} {col : Nat} {s : Nat × Nat} (hs : s ∈ spans) (h1 : s.1 ≤ col) (h2 : col < s.2) :
    Guarded (overlaps spans) col := by
  intro a b ha hb
  unfold overlaps
  rw [List.any_eq_true]
  refine ⟨s, hs, ?_⟩
  simp only [Bool.and_eq_true, decide_eq_true_eq]
  exact ⟨Nat.lt_of_le_of_lt h1 hb, Nat.lt_of_le_of_lt ha h2⟩

theorem rstrip_length_le (l : Line) : (rstrip l).length ≤ l.length := by
  unfold rstrip
  rw [List.length_reverse]
  have := (List.dropWhile_sublist isSpace (l := l.reverse)).length_le
  rwa [List.length_reverse] at this

theorem importPart_length_le {spans : Spans} {line : Line} {c : Nat} (h : commentStart spans line = some c) :
    (importPart spans line).length ≤ c := by
  unfold importPart
  rw [h]
  exact Nat.le_trans (rstrip_length_le _) (by rw [List.length_take]; exact Nat.min_le_left _ _)

theorem comment_suffix_trailing {spans : Spans} {line : Line} {c : Nat} (h : commentStart spans line = some c) :
    line.drop c <:+ trailingComment spans line := by
  have hlen := importPart_length_le h
  unfold trailingComment
  rw [h]
  exact List.drop_suffix_drop_left line hlen

end LianVerif.PyImportPre
