/-
Two wrappers over one table (`DataModel(other)`): as long as only queries are called, both stay
consistent caches of the one shared frame (`DInv`), because a query writes back the frame it read and
an index dict that is either the old one or built from that frame.
-/
import LianVerif.Proofs.Table
import LianVerif.Proofs.ScanWF

namespace LianVerif.Table
open LianVerif.Scan

namespace Duo

theorem frame_put (d : Duo) (fr ix who : Bool) (g : Frame) (m : Indexer) (x : Side) (s : Bool) :
    (((d.setFrame fr g).setDict ix m).setSide who x).frame s = if s = fr then g else d.frame s := by
  cases fr <;> cases ix <;> cases who <;> cases s <;> rfl

theorem dict_put (d : Duo) (fr ix who : Bool) (g : Frame) (m : Indexer) (x : Side) (s : Bool) :
    (((d.setFrame fr g).setDict ix m).setSide who x).dict s = if s = ix then m else d.dict s := by
  cases fr <;> cases ix <;> cases who <;> cases s <;> rfl

theorem side_put_self (d : Duo) (fr ix who : Bool) (g : Frame) (m : Indexer) (x : Side) :
    (((d.setFrame fr g).setDict ix m).setSide who x).side who = x := by
  cases fr <;> cases ix <;> cases who <;> rfl

theorem side_put_other (d : Duo) (fr ix who : Bool) (g : Frame) (m : Indexer) (x : Side) :
    (((d.setFrame fr g).setDict ix m).setSide who x).side (!who) = d.side (!who) := by
  cases fr <;> cases ix <;> cases who <;> rfl

theorem view_store_self (d : Duo) (who : Bool) (op : Op) (out : Out) (t' : T) :
    (d.store who op out t').view who = { t' with idxRebound := false } := by
  simp only [store, view, side_put_self, frame_put, dict_put, if_true]

theorem view_store_other (d : Duo) (who : Bool) (op : Op) (out : Out) (t' : T) :
    (d.store who op out t').view (!who) =
      { d.view (!who) with
        data := if (d.side (!who)).fr = ((d.store who op out t').side who).fr then t'.data
                else (d.view (!who)).data
        idx := if (d.side (!who)).ix = ((d.store who op out t').side who).ix then t'.idx
               else (d.view (!who)).idx } := by
  simp only [store, view, side_put_self, side_put_other, frame_put, dict_put]

end Duo

def DInv (d : Duo) (f : Frame) : Prop := ∀ who, Cached (d.view who) f

theorem dinv_share {t : T} {f : Frame} (h : Cached t f) : DInv (Duo.share t) f := by
  obtain ⟨rfl, h⟩ := h
  intro who
  cases who
  · exact ⟨rfl, h⟩
  · exact ⟨rfl, rfl, nofun, fun _ _ => h.idx_built⟩

theorem store_inv {d : Duo} {f : Frame} (h : DInv d f) (who : Bool) (op : Op) (out : Out) {t' : T}
    (h' : Cached t' f) : DInv (d.store who op out t') f := by
  intro w
  by_cases hw : w = who
  · rw [hw, Duo.view_store_self]; exact ⟨h'.data_eq, h'.consistent⟩
  · obtain ⟨rfl, hy⟩ := h (!who)
    rw [Bool.eq_not_of_ne hw, Duo.view_store_other, h'.data_eq, ite_self]
    refine ⟨rfl, hy.schema_eq, hy.rows_clean, fun _ _ => ?_⟩
    split
    · exact h'.data_eq ▸ h'.consistent.idx_built
    · exact hy.idx_built

theorem stepD_query {d : Duo} {f : Frame} (h : DInv d f) (who : Bool) {op : Op}
    (hq : op.isQuery = true) :
    DInv (stepD current d who op).1 f ∧ (stepD current d who op).2 = (specStep f op).2.1 := by
  obtain ⟨h1, h2, _⟩ := step_refines (h who) op
  rw [query_frame hq] at h1
  exact ⟨store_inv h who op _ h1, h2⟩

theorem specStepD_query (d : SDuo) (who : Bool) {op : Op} (hq : op.isQuery = true) :
    specStepD d who op = (d, (specStep (d.frame (d.ptr who)) op).2.1) := by
  have hf := query_frame hq (d.frame (d.ptr who))
  simp only [specStepD, query_not_rebinds hq, Bool.false_and, Bool.false_eq_true, if_false]
  generalize specStep (d.frame (d.ptr who)) op = r at hf ⊢
  obtain ⟨f', out, ch⟩ := r
  obtain ⟨f0, f1, a, b⟩ := d
  subst hf
  -- `d` with slot `x` and pointer `who` overwritten by their own values is `d` (structure eta)
  cases who <;> cases a <;> cases b <;> rfl

theorem runD_query (ops : List (Bool × Op)) (f : Frame) (sd : SDuo) (hs : ∀ who, sd.frame (sd.ptr who) = f) :
    ∀ (d : Duo), DInv d f → (∀ o ∈ ops, o.2.isQuery = true) →
      (runD current d ops).2 = (specRunD sd ops).2 := by
  induction ops with
  | nil => intro d _ _; rfl
  | cons o ops ih =>
    intro d hd hq
    obtain ⟨who, op⟩ := o
    have hqo : op.isQuery = true := hq (who, op) (by simp)
    obtain ⟨d1, d2⟩ := stepD_query hd who hqo
    simp only [runD, specRunD, specStepD_query sd who hqo]
    rw [ih _ d1 (fun o ho => hq o (List.mem_cons_of_mem _ ho)), d2, hs, (d1 who).data_eq]

end LianVerif.Table
