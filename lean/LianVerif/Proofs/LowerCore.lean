/-
Simulation of the dialect-table lowering (Model/LowerCore.lean) on pure expressions and loop-free statement
lists, for every row of the table, by the relations of Proofs/LowerSim.lean.
-/
import LianVerif.Proofs.LowerSim
import LianVerif.Model.LowerCore

namespace LianVerif.LowerCore
open LianVerif.Gir LianVerif.Core
open LianVerif.LowerPy (Sim Sim2 Steps Computes Runs Done andThen)

theorem chkInt_ok {n : Int} {v : Val} (h : chkInt n = .ok v) : v = .int n := by
  unfold chkInt at h
  split at h
  · cases h; rfl
  · cases h

theorem binCore_ok {op : BinOp} {a b v : Val} (hc : binCore op a b = .ok v) :
    (∃ x y, a = .int x ∧ b = .int y) ∨ (op = .concat ∧ ∃ x y, a = .str x ∧ b = .str y) := by
  unfold binCore at hc
  split at hc <;> try exact .inl ⟨_, _, rfl, rfl⟩
  · exact .inr ⟨rfl, _, _, rfl, rfl⟩    -- the arm of `concat`
  · cases hc                             -- the last arm answers an error

theorem binCore_div (x y : Int) :
    binCore .div (.int x) (.int y) = if x < 0 ∨ y ≤ 0 then .error "domain:div" else .ok (.int (x / y)) := rfl

theorem binCore_mod (x y : Int) :
    binCore .mod (.int x) (.int y) = if x < 0 ∨ y ≤ 0 then .error "domain:mod" else .ok (.int (x % y)) := rfl

theorem divisor_nonneg {x y : Int} (h : ¬(x < 0 ∨ y ≤ 0)) : 0 ≤ y :=
  Int.le_of_lt (Int.not_le.mp (h ∘ .inr))

theorem binopH_mod (h : List Obj) (x y : Int) :
    binopH h "%" (.int x) (.int y) =
      if y == 0 then .error "raise:ZeroDivisionError" else .ok (.int (Int.fmod x y), h) := by
  rfl

/-- `div` is left out: its token is `/` in the rows of Java, Go and C, whose meaning on integers the token
does not fix (`Core.pureE`).  `binopH` on a literal token is evaluated (`rfl`): unfolding it with `simp` is dear. -/
theorem binCore_binopH (h : List Obj) (d : Dialect) (op : BinOp) (hop : op ≠ .div) (a b v : Val)
    (hc : binCore op a b = .ok v) :
    binopH h (binTok d op) a b = .ok (v, h) := by
  obtain ⟨x, y, rfl, rfl⟩ | ⟨rfl, x, y, rfl, rfl⟩ := binCore_ok hc
  · cases op with
    | add | sub | mul => cases chkInt_ok hc; rfl
    | div => exact absurd rfl hop
    | mod =>
      -- on a non-negative dividend and a positive divisor `%` is Python's floor modulus
      rw [binCore_mod] at hc
      split at hc
      next => cases hc
      next hd =>
        cases hc
        have hy0 : ¬(y == 0) = true := fun e => hd (.inr (Int.le_of_eq (eq_of_beq e)))
        show binopH h "%" _ _ = _
        rw [binopH_mod, if_neg hy0, Int.fmod_eq_emod_of_nonneg x (divisor_nonneg hd)]
    | lt | le | gt | ge | eq | ne => cases hc; rfl
    | concat => cases hc
  · cases hc; rfl

/-- no switch of a frozen defect is on; `not` and the output function are spelled as the GIR semantics knows them. -/
structure Dialect.Ok (d : Dialect) : Prop where
  notOp : d.notOp = "not" ∨ d.notOp = "!"
  rightFirst : d.rightFirst = false
  foldPy : d.foldPySpelling = false
  goOff : d.goOffVocabulary = false
  outName : d.outName = "print" ∨ d.outName = "output"

theorem dialect_ok (l : Lang) : (dialect l false).Ok := by
  cases l <;> exact ⟨by simp [dialect], rfl, rfl, rfl, by simp [dialect]⟩

theorem unCore_unopH (h : List Obj) (d : Dialect) (hd : d.Ok) (op : UnOp) (a v : Val)
    (hc : unCore op a = .ok v) : unopH h (unTok d op) a = .ok v := by
  unfold unCore at hc
  split at hc
  next x => cases chkInt_ok hc; rfl
  next b =>
    cases hc
    rcases hd.notOp with hn | hn
    · simp only [unTok, hn]; rfl
    · simp only [unTok, hn]; rfl
  next => cases hc

theorem outName_ne_tmp (d : Dialect) (hd : d.Ok) (n : Nat) : d.outName ≠ tmp n := by
  -- a temporary starts with `%`, `print` and `output` do not
  intro h
  have h2 := congrArg String.toList h
  rcases hd.outName with hg | hg <;> simp [hg, tmp, LianVerif.LowerPy.tmp, String.toList_append] at h2

theorem unTok_ne_empty (d : Dialect) (hd : d.Ok) (op : UnOp) : unTok d op ≠ "" := by
  cases op with
  | neg => simp [unTok]
  | not => rcases hd.notOp with hn | hn <;> simp [unTok, hn]

def NoTmpE : Expr → Prop
  | .var x => ∀ n, x ≠ tmp n
  | .bin _ l r => NoTmpE l ∧ NoTmpE r
  | .un _ e => NoTmpE e
  | _ => True

section
variable {fns : List FnDef} {f : Nat} {σ σ' : State} {v : Val}

theorem evalE_bin {op : BinOp} {l r : Expr} (h : evalE fns (f + 1) σ (.bin op l r) = (.ok v, σ')) :
    ∃ a σ1 b, evalE fns f σ l = (.ok a, σ1) ∧ evalE fns f σ1 r = (.ok b, σ') ∧ binCore op a b = .ok v := by
  simp only [evalE] at h
  split at h
  next => cases h
  next a σ1 hl =>
    split at h
    next => cases h
    next b σ2 hr => obtain ⟨hc, rfl⟩ := Prod.mk.inj h; exact ⟨a, σ1, b, hl, hr, hc⟩

theorem evalE_un {op : UnOp} {e : Expr} (h : evalE fns (f + 1) σ (.un op e) = (.ok v, σ')) :
    ∃ a, evalE fns f σ e = (.ok a, σ') ∧ unCore op a = .ok v := by
  simp only [evalE] at h
  split at h
  next => cases h
  next a σ1 he => obtain ⟨hc, rfl⟩ := Prod.mk.inj h; exact ⟨a, he, hc⟩

theorem evalE_int {x : Int} (h : evalE fns f σ (.int x) = (.ok v, σ')) : v = .int x := by
  cases f
  · cases h
  · cases h; rfl

theorem evalE_str {x : String} (h : evalE fns f σ (.str x) = (.ok v, σ')) : v = .str x := by
  cases f
  · cases h
  · cases h; rfl

end

theorem evalE_pure_state (fns : List FnDef) : ∀ (fuel : Nat) (e : Expr) (σ σ' : State) (r : Res Val),
    pureE e = true → evalE fns fuel σ e = (r, σ') → σ' = σ := by
  intro fuel
  induction fuel with
  | zero => intro e σ σ' r _ h; cases h; rfl
  | succ f ih =>
    intro e σ σ' r hp h
    cases e with
    | int n => cases h; rfl
    | bool b => cases h; rfl
    | str s => cases h; rfl
    | var x => cases (Prod.mk.inj h).2; rfl
    | bin op l r =>
      -- the result state is that of the last operand evaluated, whether or not it failed
      simp only [pureE, Bool.and_eq_true] at hp
      simp only [evalE] at h
      split at h
      next er σ1 hl => cases h; exact ih l _ _ _ hp.1.2 hl
      next a σ1 hl =>
        cases ih l _ _ _ hp.1.2 hl
        split at h
        next er σ2 hr => cases h; exact ih r _ _ _ hp.2 hr
        next b σ2 hr => cases h; exact ih r _ _ _ hp.2 hr
    | un op e1 =>
      simp only [evalE] at h
      split at h
      next er σ1 he => cases h; exact ih e1 _ _ _ hp he
      next a σ1 he => cases h; exact ih e1 _ _ _ hp he
    | _ => cases hp

theorem foldOpd_some (d : Dialect) (hf : d.foldPySpelling = false) (tok : String) (l r : Expr) (w : Option Val)
    (o : Opd) (h : foldOpd d tok l r w = some o) : ∃ v', w = some v' ∧ o = .lit v' := by
  unfold foldOpd at h
  split at h
  · simp only [hf, Bool.false_eq_true, if_false, Option.some.injEq] at h
    exact ⟨_, rfl, h.symm⟩
  · cases h; exact ⟨_, rfl, rfl⟩
  · simp [hf] at h

theorem foldBin_ok {op : BinOp} {l r : Expr} {v' : Val} (hf : foldBin op l r = some v') :
    (∃ x y, l = .int x ∧ r = .int y) ∨ (op = .concat ∧ ∃ x y, l = .str x ∧ r = .str y) := by
  unfold foldBin at hf
  split at hf <;> try exact .inl ⟨_, _, rfl, rfl⟩
  · exact .inr ⟨rfl, _, _, rfl, rfl⟩    -- the arm of `concat`
  · cases hf                             -- the last arm folds nothing

theorem foldBin_div (x y : Int) :
    foldBin .div (.int x) (.int y) = if y == 0 then none else some (.int (Int.fdiv x y)) := rfl

theorem foldBin_mod (x y : Int) :
    foldBin .mod (.int x) (.int y) = if y == 0 then none else some (.int (Int.fmod x y)) := rfl

theorem foldBin_sound {fns : List FnDef} {f : Nat} {op : BinOp} {l r : Expr} {σ σ1 σ2 : State} {a b v v' : Val}
    (hf : foldBin op l r = some v') (h1 : evalE fns f σ l = (.ok a, σ1)) (h2 : evalE fns f σ1 r = (.ok b, σ2))
    (hc : binCore op a b = .ok v) : v' = v := by
  obtain ⟨x, y, rfl, rfl⟩ | ⟨rfl, x, y, rfl, rfl⟩ := foldBin_ok hf
  · cases evalE_int h1
    cases evalE_int h2
    cases op with
    | add | sub | mul => cases hf; exact (chkInt_ok hc).symm
    | div =>
      -- Python's `//` is the quotient of the core language where the core language defines it
      rw [foldBin_div] at hf
      split at hf
      · cases hf
      · cases hf
        rw [binCore_div] at hc
        split at hc
        next => cases hc
        next hd => cases hc; rw [Int.fdiv_eq_ediv_of_nonneg x (divisor_nonneg hd)]
    | mod =>
      rw [foldBin_mod] at hf
      split at hf
      · cases hf
      · cases hf
        rw [binCore_mod] at hc
        split at hc
        next => cases hc
        next hd => cases hc; rw [Int.fmod_eq_emod_of_nonneg x (divisor_nonneg hd)]
    | lt | le | gt | ge | eq | ne => cases hf; cases hc; rfl
    | concat => cases hf
  · cases evalE_str h1
    cases evalE_str h2
    cases hf; cases hc; rfl

theorem negLitOpd_some {d : Dialect} {op : UnOp} {e : Expr} {o : Opd} (h : negLitOpd d op e = some o) :
    ∃ n, op = .neg ∧ e = .int n ∧ o = .lit (.int (-n)) := by
  unfold negLitOpd at h
  split at h
  · split at h
    · cases h; exact ⟨_, rfl, rfl, rfl⟩
    · cases h
  · cases h

theorem lowerE_sim (d : Dialect) (hd : d.Ok) (fns : List FnDef) : ∀ (fuel : Nat) (e : Expr), pureE e = true → NoTmpE e →
    ∀ (k : Nat) {σ τ σ' : State} {v : Val}, evalE fns fuel σ e = (.ok v, σ') → Sim σ τ →
    ∃ τ', Computes (lowerE d e k).1 (lowerE d e k).2.1 k (lowerE d e k).2.2 τ τ' σ' v := by
  intro fuel
  induction fuel with
  | zero => intro e _ _ k σ τ σ' v h _; cases h
  | succ f ih =>
    intro e hp hnt k σ τ σ' v h hs
    cases evalE_pure_state fns _ e σ σ' _ hp h
    cases e with
    | int n => cases h; exact ⟨τ, .atom hs rfl nofun⟩
    | bool b => cases h; exact ⟨τ, .atom hs rfl nofun⟩
    | str s =>
      cases h
      simp only [lowerE]
      split
      · -- PHP: the literal is copied to a fresh temporary
        exact (Computes.atom (o := .lit (.str s)) (k := k) hs rfl nofun).copy
      · exact ⟨τ, .atom hs rfl nofun⟩
    | var x =>
      exact ⟨τ, .atom hs ((hs.look x hnt).symm.trans (Prod.mk.inj h).1) fun j e => hnt j (Opd.var.inj e)⟩
    | bin op l r =>
      simp only [pureE, Bool.and_eq_true] at hp
      obtain ⟨a, σ1, b, h1, h2, hc⟩ := evalE_bin h
      simp only [lowerE]
      split
      next o hfo =>
        -- Java: folded to a constant
        split at hfo
        · obtain ⟨v', hfb, rfl⟩ := foldOpd_some d hd.foldPy _ l r _ o hfo
          cases foldBin_sound hfb h1 h2 hc
          exact ⟨τ, .atom hs rfl nofun⟩
        · cases hfo
      next =>
        simp only [hd.rightFirst, Bool.false_eq_true, if_false]
        obtain ⟨τ1, c1⟩ := ih l hp.1.2 hnt.1 k h1 hs
        obtain ⟨τ2, c2⟩ := ih r hp.2 hnt.2 _ h2 c1.sim
        have hdiv : op ≠ .div := by rintro rfl; exact absurd hp.1.1 (by decide)
        exact c1.bin c2 (binCore_binopH σ.heap d op hdiv a b v hc)
    | un op e1 =>
      obtain ⟨a, h1, hc⟩ := evalE_un h
      simp only [lowerE]
      split
      next o hneg =>
        -- C: `-12` is one literal
        obtain ⟨n, rfl, rfl, rfl⟩ := negLitOpd_some hneg
        cases evalE_int h1
        cases chkInt_ok hc
        exact ⟨τ, .atom hs rfl nofun⟩
      next =>
        obtain ⟨τ1, c1⟩ := ih e1 hp hnt k h1 hs
        exact c1.un (unTok_ne_empty d hd op) (unCore_unopH σ.heap d hd op a v hc)
    | _ => cases hp

def isVarOf (e : Expr) (x : String) : Bool :=
  match e with
  | .var y => y == x
  | _ => false

mutual
/-- `x = x` is excluded: two dialects emit `variable_decl x` between the read and the write. -/
def stmtFrag : Core.Stmt → Bool
  | .decl x _ e => pureE e && !isVarOf e x
  | .assign x e => pureE e && !isVarOf e x
  | .exprS e => pureE e
  | .out e => pureE e
  | .ret e => pureE e
  | .ifS c t e => pureE c && bodyFrag t && bodyFrag e
  | _ => false

def bodyFrag : List Core.Stmt → Bool
  | [] => true
  | s :: r => stmtFrag s && bodyFrag r
end

mutual
def NoTmpS : Core.Stmt → Prop
  | .decl x _ e => (∀ n, x ≠ tmp n) ∧ NoTmpE e
  | .assign x e => (∀ n, x ≠ tmp n) ∧ NoTmpE e
  | .exprS e => NoTmpE e
  | .out e => NoTmpE e
  | .ret e => NoTmpE e
  | .ifS c t e => NoTmpE c ∧ NoTmpB t ∧ NoTmpB e
  | _ => True

def NoTmpB : List Core.Stmt → Prop
  | [] => True
  | s :: r => NoTmpS s ∧ NoTmpB r
end

mutual
/-- used with `g` the output function. -/
def NotNamedS (g : String) : Core.Stmt → Prop
  | .decl x _ _ => g ≠ x
  | .assign x _ => g ≠ x
  | .ifS _ t e => NotNamedB g t ∧ NotNamedB g e
  | _ => True

def NotNamedB (g : String) : List Core.Stmt → Prop
  | [] => True
  | s :: r => NotNamedS g s ∧ NotNamedB g r
end

theorem assignLocal_eq_bindHere (σ : State) (x : String) (v : Val) : assignLocal σ x v = σ.bindHere x v := rfl

theorem assignLocal_upd {σ σ' : State} {x : String} {v : Val} (hl : σ.Loc x) (h : assignLocal σ x v = .ok σ') :
    σ.Upd σ' x v :=
  bindHere_upd hl ((assignLocal_eq_bindHere σ x v).symm.trans h)

theorem asBool_ok {v : Val} {b : Bool} (h : asBool v = .ok b) : v = .bool b := by
  cases v <;> cases h
  rfl

section
variable {fns : List FnDef} {f : Nat} {σ σ' : State} {rest : List Core.Stmt} {o : Outcome}

/-! An error of a sub-evaluation is the outcome of the list: hence the premise `hne`. -/

theorem execS_decl {x : String} {ty : Ty} {e : Expr} (h : execS fns (f + 1) σ (.decl x ty e :: rest) = (o, σ'))
    (hne : ∀ er, o ≠ .err er) :
    ∃ v σ1 σ2, evalE fns f σ e = (.ok v, σ1) ∧ assignLocal σ1 x v = .ok σ2 ∧ execS fns f σ2 rest = (o, σ') := by
  simp only [execS] at h
  split at h
  next => cases h; exact absurd rfl (hne _)
  next v σ1 he =>
    split at h
    next σ2 ha => exact ⟨v, σ1, σ2, he, ha, h⟩
    next => cases h; exact absurd rfl (hne _)

theorem execS_assign {x : String} {e : Expr} (h : execS fns (f + 1) σ (.assign x e :: rest) = (o, σ'))
    (hne : ∀ er, o ≠ .err er) :
    ∃ v σ1 σ2, evalE fns f σ e = (.ok v, σ1) ∧ assignLocal σ1 x v = .ok σ2 ∧ execS fns f σ2 rest = (o, σ') := by
  simp only [execS] at h
  split at h
  next => cases h; exact absurd rfl (hne _)
  next v σ1 he =>
    split at h
    next σ2 ha => exact ⟨v, σ1, σ2, he, ha, h⟩
    next => cases h; exact absurd rfl (hne _)

theorem execS_exprS {e : Expr} (h : execS fns (f + 1) σ (.exprS e :: rest) = (o, σ'))
    (hne : ∀ er, o ≠ .err er) : ∃ v σ1, evalE fns f σ e = (.ok v, σ1) ∧ execS fns f σ1 rest = (o, σ') := by
  simp only [execS] at h
  split at h
  next => cases h; exact absurd rfl (hne _)
  next v σ1 he => exact ⟨v, σ1, he, h⟩

theorem execS_out {e : Expr} (h : execS fns (f + 1) σ (.out e :: rest) = (o, σ'))
    (hne : ∀ er, o ≠ .err er) :
    ∃ v σ1, evalE fns f σ e = (.ok v, σ1) ∧
      execS fns f { σ1 with out := σ1.render v :: σ1.out } rest = (o, σ') := by
  simp only [execS] at h
  split at h
  next => cases h; exact absurd rfl (hne _)
  next v σ1 he => exact ⟨v, σ1, he, h⟩

theorem execS_ret {e : Expr} (h : execS fns (f + 1) σ (.ret e :: rest) = (o, σ'))
    (hne : ∀ er, o ≠ .err er) : ∃ v, evalE fns f σ e = (.ok v, σ') ∧ o = .ret v := by
  simp only [execS] at h
  split at h
  next => cases h; exact absurd rfl (hne _)
  next v σ1 he => cases h; exact ⟨v, he, rfl⟩

theorem execS_ifS {c : Expr} {t e : List Core.Stmt} (h : execS fns (f + 1) σ (.ifS c t e :: rest) = (o, σ'))
    (hne : ∀ er, o ≠ .err er) :
    ∃ b σ1, evalE fns f σ c = (.ok (.bool b), σ1) ∧
      andThen (if b then execS fns f σ1 t else execS fns f σ1 e) (fun σ2 => execS fns f σ2 rest) = (o, σ') := by
  simp only [execS] at h
  split at h
  next => cases h; exact absurd rfl (hne _)
  next vc σ1 hc =>
    split at h
    next => cases h; exact absurd rfl (hne _)
    next b hb =>
      cases asBool_ok hb
      rw [apply_ite (execS fns f _)] at h
      exact ⟨b, σ1, hc, h⟩

end

theorem lowerB_cons (d : Dialect) (s : Core.Stmt) (rest : List Core.Stmt) (k : Nat) :
    lowerB d (s :: rest) k =
      ((lowerS d s k).1 ++ (lowerB d rest (lowerS d s k).2).1, (lowerB d rest (lowerS d s k).2).2) := rfl

theorem lowerS_decl (d : Dialect) (x : String) (ty : Ty) (e : Expr) (k : Nat) :
    (lowerS d (.decl x ty e) k).1 = (lowerE d e k).1 ++ [.varDecl x, .assign x "" (lowerE d e k).2.1 none] := rfl

/-- Python and PHP declare at every assignment; TypeScript appends `expression_stmt`. -/
theorem lowerS_assign (d : Dialect) (x : String) (e : Expr) (k : Nat) :
    (lowerS d (.assign x e) k).1 =
      if d.declEvery then (lowerE d e k).1 ++ [.varDecl x, .assign x "" (lowerE d e k).2.1 none]
      else if d.exprStmt then (lowerE d e k).1 ++ [.assign x "" (lowerE d e k).2.1 none] ++ [.pass]
      else (lowerE d e k).1 ++ [.assign x "" (lowerE d e k).2.1 none] := by
  simp only [lowerS]
  split
  · rfl
  · split
    · simp only [List.append_assoc, List.cons_append, List.nil_append]
    · rfl

theorem lowerS_exprS (d : Dialect) (e : Expr) (k : Nat) :
    (lowerS d (.exprS e) k).1 = if d.exprStmt then (lowerE d e k).1 ++ [.pass] else (lowerE d e k).1 := rfl

theorem lowerS_ret (d : Dialect) (hd : d.Ok) (e : Expr) (k : Nat) :
    (lowerS d (.ret e) k).1 = (lowerE d e k).1 ++ [.ret (lowerE d e k).2.1] := by
  simp only [lowerS, hd.goOff, Bool.false_eq_true, if_false]

theorem lowerS_ifS (d : Dialect) (c : Expr) (t e : List Core.Stmt) (k : Nat) :
    lowerS d (.ifS c t e) k =
      ((lowerE d c k).1 ++ [.ifS (lowerE d c k).2.1 (lowerB d t (lowerE d c k).2.2).1
          (lowerB d e (lowerB d t (lowerE d c k).2.2).2).1],
       (lowerB d e (lowerB d t (lowerE d c k).2.2).2).2) := rfl

/-- `output(e)`: the argument, then the call into a temporary taken before the argument is lowered (Python) or after. -/
theorem lowerS_out (d : Dialect) (hd : d.Ok) (e : Expr) (k : Nat) :
    ∃ k0 n, (lowerS d (.out e) k).1 =
      if d.exprStmt then
        (lowerE d e k0).1 ++ [.call (tmp n) (.var d.outName) [(lowerE d e k0).2.1] []] ++ [.pass]
      else (lowerE d e k0).1 ++ [.call (tmp n) (.var d.outName) [(lowerE d e k0).2.1] []] := by
  by_cases hc : d.callTmpFirst = true
  · exact ⟨k + 1, k + 1, by
      simp only [lowerS, lowerE, lowerArgs, hc, if_true, List.append_nil]⟩
  · exact ⟨k, (lowerE d e k).2.2 + 1, by
      simp only [lowerS, lowerE, lowerArgs, hc, hd.goOff, Bool.false_eq_true, if_false, List.append_nil]⟩

theorem lowerE_opd_ne (d : Dialect) (hd : d.Ok) (e : Expr) (k : Nat) (x : String) (hp : pureE e = true)
    (hne : isVarOf e x = false) (hx : ∀ n, x ≠ tmp n) : (lowerE d e k).2.1 ≠ .var x := by
  have htmp : ∀ n, Opd.var (tmp n) ≠ .var x := fun n h => hx n (Opd.var.inj h).symm
  cases e with
  | int n => exact nofun
  | bool b => exact nofun
  | str s =>
    simp only [lowerE]
    split
    · exact htmp _
    · exact nofun
  | var y => intro h; cases h; simp [isVarOf] at hne
  | bin op l r =>
    simp only [lowerE]
    split
    next o hfo =>
      split at hfo
      · obtain ⟨v', _, rfl⟩ := foldOpd_some d hd.foldPy _ l r _ o hfo; exact nofun
      · cases hfo
    next => simp only [hd.rightFirst, Bool.false_eq_true, if_false]; exact htmp _
  | un op e1 =>
    simp only [lowerE]
    split
    next o hneg => obtain ⟨n, _, _, rfl⟩ := negLitOpd_some hneg; exact nofun
    next => exact htmp _
  | _ => cases hp

theorem exec_out (N : Nat) (τ τ2 : State) (t g : String) (o : Opd) (v : Val) (rest : List Gir.Stmt)
    (hb : τ.budget = none) (hg : τ.lookup g = .ok (.builtin g)) (hgn : g = "print" ∨ g = "output")
    (hv : τ.evalOpd o = .ok v)
    (has : ({ τ with out := τ.render v :: τ.out } : State).assign t .none = .ok τ2) :
    exec (N + 1) τ (.call t (.var g) [o] [] :: rest) = exec N τ2 rest := by
  have hfv : τ.evalOpd (.var g) = .ok (.builtin g) := hg
  have hargs : τ.evalOpds [o] = .ok [v] := by simp only [State.evalOpds, hv]
  have hcall : callBuiltin τ g [v] [] = (.ok .none, { τ with out := τ.render v :: τ.out }) := by
    rcases hgn with rfl | rfl <;> rfl
  -- unfolding `exec` rewrites `τ.budget` to `none` in the state the built-in returns; the same in `has`
  simp only [hb] at has
  simp only [exec, State.tick, hb, hfv, hargs, State.evalNamed, invoke, hcall]
  rw [has]

theorem out_sim {σ τ : State} {g : String} {o : Opd} {v : Val} (hs : Sim2 σ τ) (n : Nat)
    (hg : τ.lookup g = .ok (.builtin g)) (hgn : g = "print" ∨ g = "output") (hv : τ.evalOpd o = .ok v) :
    ∃ τ', Sim2 { σ with out := σ.render v :: σ.out } τ' ∧ Steps [.call (tmp n) (.var g) [o] []] τ τ' := by
  obtain ⟨τ', has, hu⟩ := assign_loc { τ with out := τ.render v :: τ.out } (tmp n) .none (hs.tloc _)
  exact ⟨τ', (hs.withOut v).write hu,
    fun rest N => exec_out N τ τ' (tmp n) g o v rest hs.budget hg hgn hv has⟩

/-- the output function of the dialect is the built-in on the source side; `NotNamedB` keeps it so. -/
structure SimOut (d : Dialect) (σ τ : State) : Prop where
  sim2 : Sim2 σ τ
  out : σ.lookup d.outName = .ok (.builtin d.outName)

theorem lowerE_sim2 (d : Dialect) (hd : d.Ok) (fns : List FnDef) {f : Nat} {e : Expr} (k : Nat)
    {σ τ σ1 : State} {v : Val} (hp : pureE e = true) (hnt : NoTmpE e)
    (hev : evalE fns f σ e = (.ok v, σ1)) (hs : SimOut d σ τ) :
    ∃ τ1, Computes (lowerE d e k).1 (lowerE d e k).2.1 k (lowerE d e k).2.2 τ τ1 σ1 v ∧ SimOut d σ1 τ1 := by
  obtain rfl := evalE_pure_state fns f e σ σ1 _ hp hev
  obtain ⟨τ1, c⟩ := lowerE_sim d hd fns f e hp hnt k hev hs.sim2.toSim
  exact ⟨τ1, c, ⟨c.sim, hs.sim2.sloc, fun y => c.loc y (hs.sim2.tloc y)⟩, hs.out⟩

theorem lowerB_sim (d : Dialect) (hd : d.Ok) (fns : List FnDef) : ∀ (fuel : Nat) (B : List Core.Stmt),
    bodyFrag B = true → NoTmpB B → NotNamedB d.outName B →
    ∀ (k : Nat) {σ τ σ' : State} {o : Outcome}, execS fns fuel σ B = (o, σ') → Done o → SimOut d σ τ →
    ∃ τ', SimOut d σ' τ' ∧ Runs (lowerB d B k).1 τ τ' o := by
  intro fuel
  induction fuel with
  | zero => intro B _ _ _ k σ τ σ' o h ho _; cases h; exact absurd rfl (ho.ne_err _)
  | succ f ih =>
    intro B hfrag hnt hnn k σ τ σ' o h ho hs
    cases B with
    | nil => cases h; exact ⟨τ, hs, Steps.nil.runs⟩
    | cons s B' =>
      simp only [bodyFrag, Bool.and_eq_true] at hfrag
      obtain ⟨hsf, hBf⟩ := hfrag
      obtain ⟨hnS, hnB⟩ := hnt
      obtain ⟨hnnS, hnnB⟩ := hnn
      have hne := ho.ne_err
      rw [lowerB_cons]
      cases s with
      | decl x ty e =>
        simp only [stmtFrag, Bool.and_eq_true, Bool.not_eq_true'] at hsf
        obtain ⟨v, σ1, σ2, h1, h2, h3⟩ := execS_decl h hne
        obtain ⟨τ1, c, hs1⟩ := lowerE_sim2 d hd fns k hsf.1 hnS.2 h1 hs
        have hσ := assignLocal_upd (hs1.sim2.sloc x) h2
        obtain ⟨τ2, hs2, hst⟩ := hs1.sim2.declset c.val (lowerE_opd_ne d hd e k x hsf.1 hsf.2 hnS.1) hσ
        rw [lowerS_decl]
        exact (c.steps.append hst).then_runs
          (ih B' hBf hnB hnnB _ h3 ho ⟨hs2, (hσ.other _ hnnS).trans hs1.out⟩)
      | assign x e =>
        simp only [stmtFrag, Bool.and_eq_true, Bool.not_eq_true'] at hsf
        obtain ⟨v, σ1, σ2, h1, h2, h3⟩ := execS_assign h hne
        obtain ⟨τ1, c, hs1⟩ := lowerE_sim2 d hd fns k hsf.1 hnS.2 h1 hs
        have hσ := assignLocal_upd (hs1.sim2.sloc x) h2
        have hof2 := (hσ.other _ hnnS).trans hs1.out
        rw [lowerS_assign]
        by_cases hde : d.declEvery = true
        · obtain ⟨τ2, hs2, hst⟩ := hs1.sim2.declset c.val (lowerE_opd_ne d hd e k x hsf.1 hsf.2 hnS.1) hσ
          rw [if_pos hde]
          exact (c.steps.append hst).then_runs (ih B' hBf hnB hnnB _ h3 ho ⟨hs2, hof2⟩)
        · obtain ⟨τ2, hs2, hst⟩ := hs1.sim2.set c.val hσ
          rw [if_neg hde]
          exact (Steps.optPass _ (c.steps.append hst) hs2.budget).then_runs
            (ih B' hBf hnB hnnB _ h3 ho ⟨hs2, hof2⟩)
      | exprS e =>
        obtain ⟨v, σ1, h1, h3⟩ := execS_exprS h hne
        obtain ⟨τ1, c, hs1⟩ := lowerE_sim2 d hd fns k hsf hnS h1 hs
        rw [lowerS_exprS]
        exact (Steps.optPass _ c.steps c.sim.budget).then_runs (ih B' hBf hnB hnnB _ h3 ho hs1)
      | out e =>
        obtain ⟨v, σ1, h1, h3⟩ := execS_out h hne
        obtain ⟨k0, n, hlow⟩ := lowerS_out d hd e k
        obtain ⟨τ1, c, hs1⟩ := lowerE_sim2 d hd fns k0 hsf hnS h1 hs
        have hg1 : τ1.lookup d.outName = .ok (.builtin d.outName) :=
          (c.sim.look _ (outName_ne_tmp d hd)).symm.trans hs1.out
        obtain ⟨τ2, hs2, hst⟩ := out_sim hs1.sim2 n hg1 hd.outName c.val
        rw [hlow]
        exact (Steps.optPass _ (c.steps.append hst) hs2.budget).then_runs
          (ih B' hBf hnB hnnB _ h3 ho ⟨hs2, (lookup_out σ1 _ _).trans hs1.out⟩)
      | ret e =>
        obtain ⟨v, h1, rfl⟩ := execS_ret h hne
        obtain ⟨τ1, c, hs1⟩ := lowerE_sim2 d hd fns k hsf hnS h1 hs
        rw [lowerS_ret d hd]
        exact ⟨τ1, hs1, c.ret _⟩
      | ifS c t e =>
        simp only [stmtFrag, Bool.and_eq_true] at hsf
        obtain ⟨bc, σ1, h1, h3⟩ := execS_ifS h hne
        obtain ⟨τ1, cc, hs1⟩ := lowerE_sim2 d hd fns k hsf.1.1 hnS.1 h1 hs
        rw [lowerS_ifS]
        exact cc.ifS_seq rfl h3 ho
          (fun hob => ih t hsf.1.2 hnS.2.1 hnnS.1 _ rfl hob hs1)
          (fun hob => ih e hsf.2 hnS.2.2 hnnS.2 _ rfl hob hs1)
          (fun _ _ hs2 h5 => ih B' hBf hnB hnnB _ h5 ho hs2)
      | _ => cases hsf

end LianVerif.LowerCore
