/-
`flatten` on `WfGir` trees: total, ids exactly `[n, n')` in emission order, rows form the grammar
(balanced, parents, ownership), body attributes name owned blocks.
Recursion over the tree along `flattenAttrs` / `flattenList`, on the branches a `WfGir` tree takes.
-/
import LianVerif.Gir.Flatten
import LianVerif.Proofs.WellFormed

namespace LianVerif.Gir

theorem assocSet_fresh {β : Type} (l : List (String × β)) (k : String) (v : β)
    (h : k ∉ l.map Prod.fst) : assocSet l k v = l ++ [(k, v)] := by
  induction l with
  | nil => rfl
  | cons a rest ih =>
    obtain ⟨k', v'⟩ := a
    simp only [List.map_cons, List.mem_cons, not_or] at h
    have hne : (k' == k) = false := beq_eq_false_iff_ne.2 fun e => h.1 e.symm
    simp [assocSet, hne, ih h.2]

theorem assocGet_assocSet_ne {β : Type} (l : List (String × β)) (k k' : String) (v : β) (h : k ≠ k') :
    assocGet (assocSet l k v) k' = assocGet l k' := by
  have hk : (k == k') = false := beq_eq_false_iff_ne.2 h
  induction l with
  | nil => simp [assocSet, assocGet, hk]
  | cons a rest ih =>
    obtain ⟨k0, v0⟩ := a
    by_cases h0 : k0 = k
    · simp [assocSet, assocGet, h0, hk]
    · simp [assocSet, assocGet, h0, ih]

theorem setKeyE_plain (r : Row) (k : String) (v : AVal) (h : reservedKey k = false) :
    setKeyE r k v = .ok { r with attrs := assocSet r.attrs k v } := by
  simp only [reservedKey, Bool.or_eq_false_iff] at h
  unfold setKeyE Row.setKey
  simp [h.1.1, h.1.2, h.2]

theorem setKeyE_fresh (r : Row) (k : String) (v : AVal) (h : reservedKey k = false)
    (hf : k ∉ r.attrs.map Prod.fst) :
    setKeyE r k v = .ok { r with attrs := r.attrs ++ [(k, v)] } := by
  rw [setKeyE_plain r k v h, assocSet_fresh _ _ _ hf]

theorem hasIntAttr_of_mem {r : Row} {k : String} {b : Nat} (h : (k, AVal.int b) ∈ r.attrs) :
    r.hasIntAttr b = true := by
  simp only [Row.hasIntAttr, List.any_eq_true, beq_iff_eq]
  exact ⟨_, h, rfl⟩

theorem defIds_nil : defIds [] = [] := rfl

theorem defIds_append (a b : Rows) : defIds (a ++ b) = defIds a ++ defIds b := by
  simp [defIds, List.filter_append]

theorem defIds_cons_of_not_end {r : Row} (h : r.isEnd = false) (rows : Rows) :
    defIds (r :: rows) = r.id :: defIds rows := by
  simp [defIds, h]

theorem defIds_cons_of_end {r : Row} (h : r.isEnd = true) (rows : Rows) :
    defIds (r :: rows) = defIds rows := by
  simp [defIds, h]

theorem mem_defIds {rows : Rows} {i : Nat} : i ∈ defIds rows ↔ ∃ r ∈ rows, r.isEnd = false ∧ r.id = i := by
  simp [defIds, and_assoc]

theorem defIds_mono {a b : Rows} (h : ∀ s ∈ a, s ∈ b) {i : Nat} (hi : i ∈ defIds a) : i ∈ defIds b := by
  obtain ⟨s, hs, h'⟩ := mem_defIds.1 hi
  exact mem_defIds.2 ⟨s, h s hs, h'⟩

theorem defIds_map {f : Row → Row} (hid : ∀ r, (f r).id = r.id) (he : ∀ r, (f r).isEnd = r.isEnd)
    (rows : Rows) : defIds (rows.map f) = defIds rows := by
  simp [defIds, List.filter_map, Function.comp_def, hid, he]

theorem mkStart_isStart (b o : Nat) : (mkStart b o).isStart = true := by simp [mkStart, Row.isStart]
theorem mkEnd_isEnd (b o : Nat) : (mkEnd b o).isEnd = true := by simp [mkEnd, Row.isEnd]
theorem mkStart_isMarker (b o : Nat) : (mkStart b o).isMarker = true := by simp [Row.isMarker, mkStart_isStart]
theorem mkEnd_isMarker (b o : Nat) : (mkEnd b o).isMarker = true := by simp [Row.isMarker, mkEnd_isEnd]
theorem mkStart_not_end (b o : Nat) : (mkStart b o).isEnd = false := isStart_not_isEnd (mkStart_isStart b o)

theorem keysNodup_iff (kvs : List (String × JVal)) : keysNodup kvs = true ↔ (kvs.map Prod.fst).Nodup := by
  induction kvs with
  | nil => simp [keysNodup]
  | cons a rest ih =>
    simp only [keysNodup, Bool.and_eq_true, Bool.not_eq_true', List.any_eq_false, beq_iff_eq, ih,
      List.map_cons, List.nodup_cons, List.mem_map, not_exists, not_and]

/-- the relation that the `ordered` clause of `WFUnit` asks of every pair of rows in table order -/
def OrdRel (a b : Row) : Prop :=
  a.isMarker = false → b.isMarker = false → a.parent = b.parent → a.id < b.id

/-- ids increase, in table order, among the rows that introduce an id (what `flatten` gives) -/
def IncRel (a b : Row) : Prop := a.isEnd = false → b.isEnd = false → a.id < b.id

theorem IncRel.ord {a b : Row} (h : IncRel a b) : OrdRel a b :=
  fun ha hb _ => h (isMarker_false_iff.1 ha).2 (isMarker_false_iff.1 hb).2

theorem OrdRel.of_marker_left {a b : Row} (h : a.isMarker = true) : OrdRel a b :=
  fun ha => by rw [h] at ha; cases ha

theorem OrdRel.of_marker_right {a b : Row} (h : b.isMarker = true) : OrdRel a b :=
  fun _ hb => by rw [h] at hb; cases hb

theorem inc_of_ids {rows : Rows} {n k : Nat} (h : defIds rows = List.range' n k) : rows.Pairwise IncRel := by
  have h1 : (defIds rows).Pairwise (· < ·) := h ▸ List.pairwise_lt_range'
  simp only [defIds, List.pairwise_map, List.pairwise_filter] at h1
  exact h1.imp fun hab ha hb => hab (by simp [ha]) (by simp [hb])

/-- the `bodies_exist` clause for one row, the blocks sought in `pool` -/
def RowBodies (bk : String → Bool) (pool : Rows) (rid : Nat) (attrs : List (String × AVal)) : Prop :=
  ∀ kv ∈ attrs, bk kv.1 = true → ∀ b : Int, kv.2 = AVal.int b →
    ∃ s ∈ pool, s.isStart = true ∧ (s.id : Int) = b ∧ s.parent = rid

def BodiesOK (bk : String → Bool) (rows : Rows) : Prop :=
  ∀ r ∈ rows, r.isMarker = false → RowBodies bk rows r.id r.attrs

theorem RowBodies.mono {bk pool pool' rid attrs} (h : RowBodies bk pool rid attrs)
    (hsub : ∀ s ∈ pool, s ∈ pool') : RowBodies bk pool' rid attrs := by
  intro kv hkv hb b hv
  obtain ⟨s, hs, h'⟩ := h kv hkv hb b hv
  exact ⟨s, hsub s hs, h'⟩

theorem BodiesOK.append {bk a b} (ha : BodiesOK bk a) (hb : BodiesOK bk b) : BodiesOK bk (a ++ b) := by
  intro r hr hm
  rcases List.mem_append.1 hr with h | h
  · exact (ha r h hm).mono (fun s hs => List.mem_append_left _ hs)
  · exact (hb r h hm).mono (fun s hs => List.mem_append_right _ hs)

/-- Rows that use exactly the ids `[n, n')`, in emission order. `keys`: none has a `unit_id` attribute
yet, so that `stamp` appends one. -/
structure Seg (bk : String → Bool) (n n' : Nat) (rows : Rows) : Prop where
  le : n ≤ n'
  ids : defIds rows = List.range' n (n' - n)
  bound : ∀ r ∈ rows, n ≤ r.id ∧ r.id < n'
  bodies : BodiesOK bk rows
  keys : ∀ r ∈ rows, "unit_id" ∉ r.attrs.map Prod.fst

theorem Seg.nil (bk : String → Bool) (n : Nat) : Seg bk n n [] :=
  ⟨Nat.le_refl _, by simp [defIds], nofun, nofun, nofun⟩

theorem range'_split (n m k : Nat) (h1 : n ≤ m) (h2 : m ≤ k) :
    List.range' n (m - n) ++ List.range' m (k - m) = List.range' n (k - n) := by
  rw [show k - n = (m - n) + (k - m) by omega, ← List.range'_append_1, Nat.add_sub_cancel' h1]

theorem Seg.append {bk n m k a b} (ha : Seg bk n m a) (hb : Seg bk m k b) : Seg bk n k (a ++ b) := by
  refine ⟨Nat.le_trans ha.le hb.le, ?_, List.forall_mem_append.2 ⟨fun r h => ?_, fun r h => ?_⟩,
    ha.bodies.append hb.bodies, List.forall_mem_append.2 ⟨ha.keys, hb.keys⟩⟩
  · rw [defIds_append, ha.ids, hb.ids, range'_split n m k ha.le hb.le]
  · exact ⟨(ha.bound r h).1, Nat.lt_of_lt_of_le (ha.bound r h).2 hb.le⟩
  · exact ⟨Nat.le_trans ha.le (hb.bound r h).1, (hb.bound r h).2⟩

theorem Seg.cons {bk n n' row sub} (hid : row.id = n) (he : row.isEnd = false)
    (hseg : Seg bk (n + 1) n' sub) (hrb : row.isMarker = false → RowBodies bk sub n row.attrs)
    (hkey : "unit_id" ∉ row.attrs.map Prod.fst) : Seg bk n n' (row :: sub) := by
  have hle := hseg.le
  have hsub : ∀ s ∈ sub, s ∈ row :: sub := fun s hs => List.mem_cons_of_mem _ hs
  refine ⟨Nat.le_of_succ_le hle, ?_,
    List.forall_mem_cons.2 ⟨by rw [hid]; exact ⟨Nat.le_refl n, hle⟩,
      fun r hr => (hseg.bound r hr).imp_left Nat.le_of_succ_le⟩,
    List.forall_mem_cons.2 ⟨fun hm => hid ▸ (hrb hm).mono hsub, fun r hr hmr => (hseg.bodies r hr hmr).mono hsub⟩,
    List.forall_mem_cons.2 ⟨hkey, hseg.keys⟩⟩
  rw [defIds_cons_of_not_end he, hseg.ids, hid, show n' - n = (n' - (n + 1)) + 1 by omega, List.range'_succ]

/-- a `block_end` introduces no id -/
theorem Seg.snoc_end {bk n n' rows e} (h : Seg bk n n' rows) (he : e.isEnd = true)
    (hb : n ≤ e.id ∧ e.id < n') (hkey : "unit_id" ∉ e.attrs.map Prod.fst) : Seg bk n n' (rows ++ [e]) := by
  have hsub : ∀ s ∈ rows, s ∈ rows ++ [e] := fun s hs => List.mem_append_left _ hs
  refine ⟨h.le, ?_, List.forall_mem_append.2 ⟨h.bound, List.forall_mem_singleton.2 hb⟩,
    List.forall_mem_append.2 ⟨fun r hr hm => (h.bodies r hr hm).mono hsub,
      List.forall_mem_singleton.2 fun hm => by simp [Row.isMarker, he] at hm⟩,
    List.forall_mem_append.2 ⟨h.keys, List.forall_mem_singleton.2 hkey⟩⟩
  rw [defIds_append, defIds_cons_of_end he, defIds_nil, List.append_nil, h.ids]

theorem Seg.block {bk n n' owner inner} (h : Seg bk (n + 1) n' inner) :
    Seg bk n n' (mkStart n owner :: inner ++ [mkEnd n owner]) :=
  (Seg.cons rfl (mkStart_not_end n owner) h (fun hm => by simp [mkStart_isMarker] at hm)
    (by simp [mkStart])).snoc_end (mkEnd_isEnd n owner) ⟨Nat.le_refl n, h.le⟩ (by simp [mkEnd])

theorem Seg.wfCore {bk n n' rows} (hn : 1 ≤ n) (hseg : Seg bk n n' rows) (hl : Shape 0 none rows) :
    WFCore bk rows :=
  ⟨lvl_of_shape hl, hseg.ids ▸ List.nodup_range',
    fun r hr => Nat.ne_of_gt (Nat.lt_of_lt_of_le hn (hseg.bound r hr).1), hseg.bodies⟩

/-- `new` is a sequence of blocks owned by the statement with id `oid`, each referenced by an attribute
in `need`: it can be put in front of any level whose pending owner is that statement -/
def OwnedBlocks (oid : Nat) (need : List (String × AVal)) (new : Rows) : Prop :=
  ∀ (p : Nat) (o : Row) (rest : Rows), o.id = oid → (∀ kv ∈ need, kv ∈ o.attrs) →
    Shape p (some o) rest → Shape p (some o) (new ++ rest)

/-- `res` is what the attribute loop returns on a `WfGir` statement, started at counter `n` with the row
`row` and the rows `acc` already emitted: `row` with attributes `added` (keys `keys`) appended, and
behind `acc` the rows `new` of its blocks, which use the ids `[n, n')` -/
def AttrsOut (bk : String → Bool) (n : Nat) (row : Row) (acc : Rows) (keys : List String)
    (res : Except FlatErr (Row × Rows × Nat)) : Prop :=
  ∃ added new n', res = .ok ({ row with attrs := row.attrs ++ added }, acc ++ new, n') ∧
    added.map Prod.fst = keys ∧ Seg bk n n' new ∧ RowBodies bk new row.id added ∧
    OwnedBlocks row.id added new

theorem AttrsOut.nil (bk : String → Bool) (n : Nat) (row : Row) (acc : Rows) :
    AttrsOut bk n row acc [] (.ok (row, acc, n)) :=
  ⟨[], [], n, by simp, rfl, .nil bk n, nofun, fun _ _ _ _ _ h => h⟩

/-- `ha`: `WfGir` allows no bare integer under a body key -/
theorem AttrsOut.plain {bk n row acc k a keys res}
    (h : AttrsOut bk n { row with attrs := row.attrs ++ [(k, a)] } acc keys res)
    (ha : ∀ b : Int, a = .int b → bk k = false) : AttrsOut bk n row acc (k :: keys) res := by
  obtain ⟨added, new, n', rfl, hk, hseg, hrb, hbc⟩ := h
  exact ⟨(k, a) :: added, new, n', by simp, by simp [hk], hseg,
    List.forall_mem_cons.2 ⟨fun hb b hv => absurd hb (by simp [ha b hv]), hrb⟩,
    fun p o rest ho hn => hbc p o rest ho fun kv hkv => hn kv (.tail _ hkv)⟩

theorem AttrsOut.block {bk n n1 row acc k keys res inner}
    (hi : Seg bk (n + 1) n1 inner) (hl : Shape n none inner)
    (h : AttrsOut bk n1 { row with attrs := row.attrs ++ [(k, .int n)] }
      (acc ++ (mkStart n row.id :: inner ++ [mkEnd n row.id])) keys res) :
    AttrsOut bk n row acc (k :: keys) res := by
  obtain ⟨added, new, n', rfl, hk, hseg, hrb, hbc⟩ := h
  refine ⟨(k, .int n) :: added, (mkStart n row.id :: inner ++ [mkEnd n row.id]) ++ new, n', by simp,
    by simp [hk], hi.block.append hseg, List.forall_mem_cons.2 ⟨fun _ b hv => ?_,
      hrb.mono fun s hs => List.mem_append_right _ hs⟩, ?_⟩
  · cases hv
    exact ⟨mkStart n row.id, by simp, mkStart_isStart _ _, rfl, rfl⟩
  · intro p o rest ho hn hl'
    have h2 := hbc p o rest ho (fun kv hkv => hn kv (.tail _ hkv)) hl'
    simpa using Shape.block (mkStart_isStart n row.id) (mkEnd_isEnd n row.id) rfl ho.symm ho.symm
      (hasIntAttr_of_mem (hn _ (.head _))) hl h2

theorem wfList_cons (bk : String → Bool) (c : JVal) (rest : List JVal) :
    wfList bk (c :: rest) = (wfStmt bk c && wfList bk rest) := rfl

theorem wfAttrs_cons_eq (bk : String → Bool) (op k : String) (v : JVal) (rest) :
    wfAttrs bk op ((k, v) :: rest) =
      (!reservedKey k && !(k == "original_stmt") && !(k == "unit_id") &&
        (match v with
         | .list xs => if isGirFormat xs || (op == "method_decl" && k == "body") then wfList bk xs else true
         | .obj _ => false
         | .int _ => !bk k
         | _ => true) &&
        wfAttrs bk op rest) := by cases v <;> rfl

theorem wfAttrs_cons {bk op k v rest} (h : wfAttrs bk op ((k, v) :: rest) = true) :
    reservedKey k = false ∧ (k ≠ "original_stmt" ∧ k ≠ "unit_id") ∧ wfAttrs bk op rest = true := by
  simp only [wfAttrs_cons_eq, Bool.and_eq_true, Bool.not_eq_true', beq_eq_false_iff_ne, ne_eq] at h
  exact ⟨h.1.1.1.1, ⟨h.1.1.1.2, h.1.1.2⟩, h.2⟩

theorem wfAttrs_keys {bk op} : ∀ {kvs : List (String × JVal)}, wfAttrs bk op kvs = true →
    ∀ k ∈ kvs.map Prod.fst, reservedKey k = false ∧ (k ≠ "original_stmt" ∧ k ≠ "unit_id")
  | [], _, k, hk => by simp at hk
  | (k0, v0) :: rest, h, k, hk => by
    obtain ⟨h1, h2, h3⟩ := wfAttrs_cons h
    rcases List.mem_cons.1 hk with rfl | hk
    · exact ⟨h1, h2⟩
    · exact wfAttrs_keys h3 k hk

theorem wfStmt_inv {bk : String → Bool} {t : JVal} (h : wfStmt bk t = true) :
    ∃ op kvs tl, t = .obj ((op, .obj kvs) :: tl) ∧ (op == opStart) = false ∧ (op == opEnd) = false ∧
      (kvs.map Prod.fst).Nodup ∧ wfAttrs bk op kvs = true := by
  unfold wfStmt at h
  split at h
  · split at h
    · simp only [Bool.and_eq_true, Bool.not_eq_true', keysNodup_iff] at h
      exact ⟨_, _, _, rfl, h.1.1, h.1.2, h.2.1, h.2.2⟩
    · simp at h
  · cases h

/-- an attribute that is no block is stored under its key (a list as `None` / its `str`, a leaf as it is)
and emits no rows -/
theorem flattenAttrs_plain {P : FlatParams} {bk : String → Bool} {n : Nat} {row : Row} {acc : Rows}
    {k : String} {v : JVal} {rest : List (String × JVal)}
    (h : wfAttrs bk row.op ((k, v) :: rest) = true) (hf : k ∉ row.attrs.map Prod.fst)
    (hv : ∀ xs, v = .list xs → (isGirFormat xs || (row.op == "method_decl" && k == "body")) = false) :
    ∃ a, (∀ b : Int, a = .int b → bk k = false) ∧
      flattenAttrs P n row acc ((k, v) :: rest) =
        flattenAttrs P n { row with attrs := row.attrs ++ [(k, a)] } acc rest := by
  have hres := (wfAttrs_cons h).1
  cases v with
  | list xs =>
    refine ⟨_, ?_, by
      conv => lhs; unfold flattenAttrs
      simp only [hv xs rfl, Bool.false_eq_true, if_false, setKeyE_fresh _ _ _ hres hf]; rfl⟩
    intro b hb; split at hb <;> cases hb
  | obj kvs => simp [wfAttrs_cons_eq] at h
  | int i =>
    -- `wfAttrs` wants the key of an integer leaf to be no body key
    simp only [wfAttrs_cons_eq, Bool.and_eq_true, Bool.not_eq_true'] at h
    exact ⟨.int i, fun _ _ => h.1.2, by (conv => lhs; unfold flattenAttrs); simp only [setKeyE_fresh _ _ _ hres hf, leafVal]⟩
  -- the `| leaf =>` alternative of `flattenAttrs`
  | null => exact ⟨leafVal .null, nofun, by (conv => lhs; unfold flattenAttrs); simp only [setKeyE_fresh _ _ _ hres hf]⟩
  | str s => exact ⟨leafVal (.str s), nofun, by (conv => lhs; unfold flattenAttrs); simp only [setKeyE_fresh _ _ _ hres hf]⟩

/-- The `original_stmt` back-patch on a row that has no such attribute yet. It stores the integer id of
the next statement: the callers need `bk "original_stmt" = false` so that it is not read as a body reference. -/
theorem patch_ok (c : Bool) (row : Row) (m : Nat) (hf : "original_stmt" ∉ row.attrs.map Prod.fst) :
    ∃ extra, (if c then setKeyE row "original_stmt" (.int m) else .ok row) =
        .ok { row with attrs := row.attrs ++ extra } ∧ ∀ kv ∈ extra, kv.1 = "original_stmt" := by
  have hres : reservedKey "original_stmt" = false := by decide +kernel
  cases c with
  | true => exact ⟨_, by rw [if_pos rfl, setKeyE_fresh _ _ _ hres hf], by simp⟩
  | false => exact ⟨[], by simp, nofun⟩

theorem lt_of_one_add_add_lt_succ {a b N : Nat} (h : 1 + a + b < N + 1) : b < N := by omega

/-- Both loops at once, by induction on a bound for the size of the tree: `JVal` is nested through
`List (String × JVal)`, and a `mutual` recursion on `sizeOf` is slow to check on proofs of this length. -/
theorem flattenLoops_spec (P : FlatParams) (bk : String → Bool) (hbk : bk "original_stmt" = false) (N : Nat) :
    (∀ (kvs : List (String × JVal)) (n : Nat) (row : Row) (acc : Rows), sizeOf kvs < N →
      wfAttrs bk row.op kvs = true → (row.attrs.map Prod.fst ++ kvs.map Prod.fst).Nodup →
      AttrsOut bk n row acc (kvs.map Prod.fst) (flattenAttrs P n row acc kvs)) ∧
    (∀ (xs : List JVal) (n parent : Nat), sizeOf xs < N → wfList bk xs = true →
      ∃ rows n', flattenList P n parent xs = .ok (rows, n') ∧ Seg bk n n' rows ∧
        Shape parent none rows ∧ (xs ≠ [] → n < n')) := by
  induction N with
  | zero => exact ⟨fun _ _ _ _ hs => absurd hs (Nat.not_lt_zero _), fun _ _ _ hs => absurd hs (Nat.not_lt_zero _)⟩
  | succ N ih =>
    refine ⟨fun kvs n row acc hs h hnd => ?_, fun xs n parent hs h => ?_⟩
    · cases kvs with
      | nil => exact .nil ..
      | cons kv rest =>
        obtain ⟨k, v⟩ := kv
        simp only [List.cons.sizeOf_spec, Prod.mk.sizeOf_spec] at hs
        obtain ⟨hres, -, hrest⟩ := wfAttrs_cons h
        have hf : k ∉ row.attrs.map Prod.fst := fun hm =>
          (List.nodup_append.1 hnd).2.2 k hm k (.head _) rfl
        have hnd' : ∀ a : AVal, ((row.attrs ++ [(k, a)]).map Prod.fst ++ rest.map Prod.fst).Nodup :=
          fun a => by simpa using hnd
        by_cases hb : ∃ xs, v = .list xs ∧ (isGirFormat xs || (row.op == "method_decl" && k == "body")) = true
        · obtain ⟨xs, rfl, hc⟩ := hb
          have hwl : wfList bk xs = true := by
            simp only [wfAttrs_cons_eq, hc, if_true, Bool.and_eq_true] at h
            exact h.1.2
          rw [JVal.list.sizeOf_spec] at hs
          obtain ⟨inner, n1, e, hseg, hl, -⟩ := ih.2 xs (n + 1) n (by omega) hwl
          unfold flattenAttrs
          simp only [if_pos hc, e, wrapBlock, setKeyE_fresh _ _ _ hres hf]
          exact .block hseg hl (ih.1 rest n1 _ _ (lt_of_one_add_add_lt_succ hs) hrest (hnd' _))
        · obtain ⟨a, ha, e⟩ := flattenAttrs_plain (P := P) (n := n) (acc := acc) h hf fun xs hx =>
            Bool.eq_false_iff.2 fun hc => hb ⟨xs, hx, hc⟩
          rw [e]
          exact .plain (ih.1 rest n _ acc (lt_of_one_add_add_lt_succ hs) hrest (hnd' a)) ha
    · cases xs with
      | nil => exact ⟨[], n, rfl, .nil bk n, .nil, (absurd rfl ·)⟩
      | cons c rest =>
        rw [wfList_cons, Bool.and_eq_true] at h
        obtain ⟨op, kvs, tl, rfl, hns, hne, hnd, hwa⟩ := wfStmt_inv h.1
        simp only [List.cons.sizeOf_spec, Prod.mk.sizeOf_spec, JVal.obj.sizeOf_spec] at hs
        obtain ⟨added, sub, n1, e, hk, hseg, hrb, hbc⟩ :=
          ih.1 kvs (n + 1) ⟨op, n, parent, []⟩ [] (by omega) hwa (by simpa using hnd)
        obtain ⟨rows, n2, e2, hseg2, hl2, -⟩ := ih.2 rest n1 parent (lt_of_one_add_add_lt_succ hs) h.2
        have hkeys : ∀ k ∈ added.map Prod.fst, k ≠ "original_stmt" ∧ k ≠ "unit_id" :=
          fun k hm => (wfAttrs_keys hwa k (hk ▸ hm)).2
        obtain ⟨extra, ep, hex⟩ := patch_ok (nextPatches P rest && op == "variable_decl")
          ⟨op, n, parent, added⟩ n1 fun hm => (hkeys _ hm).1 rfl
        have hm : Row.isMarker ⟨op, n, parent, added ++ extra⟩ = false := by
          simp [Row.isMarker, Row.isStart, Row.isEnd, hns, hne]
        have hbodies : RowBodies bk sub n (added ++ extra) :=
          List.forall_mem_append.2 ⟨hrb, fun kv hkv hb => absurd hb (by simp [hex kv hkv, hbk])⟩
        have hkey : "unit_id" ∉ (added ++ extra).map Prod.fst := by
          simp only [List.map_append, List.mem_append, not_or]
          exact ⟨fun hm => (hkeys _ hm).2 rfl, fun hm => by
            obtain ⟨kv, hkv, h1⟩ := List.mem_map.1 hm
            simp [hex kv hkv] at h1⟩
        have hrow : Seg bk n n1 (⟨op, n, parent, added ++ extra⟩ :: sub) :=
          .cons rfl (isMarker_false_iff.1 hm).2 hseg (fun _ => hbodies) hkey
        have hshape : Shape parent none (⟨op, n, parent, added ++ extra⟩ :: (sub ++ rows)) :=
          .stmt hm rfl (hbc parent _ rows rfl (fun kv hkv => List.mem_append_left _ hkv) (hl2.of_none _))
        refine ⟨_, n2, ?_, hrow.append hseg2, hshape, fun _ => Nat.lt_of_lt_of_le hseg.le hseg2.le⟩
        unfold flattenList flattenStmt
        simp only [e, List.nil_append, Bool.not_true, Bool.false_and, Bool.false_eq_true, if_false,
          Bool.true_and, ep, e2]

theorem flatten_spec (P : FlatParams) (bk : String → Bool) (hbk : bk "original_stmt" = false)
    (n : Nat) (t : JVal) (h : WfGir bk t = true) :
    ∃ n' rows, flatten P n t = .ok (n', rows) ∧ n < n' ∧ Seg bk n n' rows ∧ Shape 0 none rows := by
  unfold WfGir at h
  split at h
  · rename_i xs
    rw [Bool.and_eq_true] at h
    obtain ⟨rows, n', e, hseg, hl, hlt⟩ := (flattenLoops_spec P bk hbk _).2 xs n 0 (Nat.lt_succ_self _) h.2
    exact ⟨n', rows, by simp [flatten, h.1, e], hlt (by rintro rfl; simp [isGirFormat] at h), hseg, hl⟩
  · cases h

end LianVerif.Gir
