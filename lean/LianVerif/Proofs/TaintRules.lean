/-
The rule side of the taint phase (Model/TaintRules.lean and the sink part of Model/Taint.lean).
All matchers of `find_sources` / `find_sinks` share one skeleton (`Scans`), from which they are
monotone in the rule lists and match nothing when no rule's language applies; the sink rules consulted
by `get_sink_tag_by_rules` are a filter of the rule list; with `target_pos` re-initialised per target
the sink tag is a plain disjunction (`sinkTag_iff`).
-/
import LianVerif.Proofs.Taint

namespace LianVerif.TaintRules
open LianVerif.Sfg

def RuleSet.le (rs rs' : RuleSet) : Prop :=
  rs.sources ⊆ rs'.sources ∧ rs.sinks ⊆ rs'.sinks ∧ rs.srcCode ⊆ rs'.srcCode ∧
  rs.sinkCode ⊆ rs'.sinkCode

theorem any_mono {α : Type} {l l' : List α} {p : α → Bool} (hsub : l ⊆ l')
    (h : l.any p = true) : l'.any p = true := by
  rw [List.any_eq_true] at *
  obtain ⟨x, hx, hp⟩ := h
  exact ⟨x, hsub hx, hp⟩

/-- the statement `n` matches some source rule (the Boolean `find_sources` tests) -/
def srcMatch (vr : Variant) (g : Graph) (rs : RuleSet) (n : Nat) : Bool :=
  ((g.node n).name == "call_stmt" && callSource vr g rs n) ||
  ((g.node n).name == "object_call_stmt" && objCallSource vr g rs n) ||
  ((g.node n).name == "parameter_decl" && paramSource vr g rs n) ||
  ((g.node n).name == "field_read" && fieldReadSource vr g rs n) ||
  codeMatch vr (g.node n) rs.srcCode

theorem ite_or_same {α : Type} (a b : Bool) (x y : α) :
    (if a then x else if b then x else y) = if (a || b) then x else y := by
  cases a <;> rfl

theorem sourceOf_eq (vr : Variant) (g : Graph) (rs : RuleSet) (n : Nat) :
    sourceOf vr g rs n =
      if (g.node n).kind != K_STMT then none
      else if srcMatch vr g rs n then some (defSym g n) else none := by
  simp only [sourceOf, srcMatch, ite_or_same, Bool.or_assoc]

/-- a test of the statement alone, then some rule of the list `sel rs` passes a test that fails
whenever the language filter does: the shape every matcher `m` of `find_sources` / `find_sinks` has -/
def Scans (vr : Variant) (nd : Node) (sel : RuleSet → List Rule) (m : RuleSet → Bool) : Prop :=
  ∃ (c : Bool) (p : Rule → Bool), (∀ rs, m rs = (c && (sel rs).any p)) ∧
    ∀ r, langOk vr r.lang nd = false → p r = false

variable {vr : Variant} {g : Graph} {rs rs' : RuleSet} {n : Nat}

theorem Scans.mono {nd : Node} {sel : RuleSet → List Rule} {m : RuleSet → Bool}
    (h : Scans vr nd sel m) (hsub : sel rs ⊆ sel rs') (hm : m rs = true) : m rs' = true := by
  obtain ⟨c, p, hcp, _⟩ := h
  rw [hcp, Bool.and_eq_true] at hm ⊢
  exact ⟨hm.1, any_mono hsub hm.2⟩

theorem Scans.lang {nd : Node} {sel : RuleSet → List Rule} {m : RuleSet → Bool}
    (h : Scans vr nd sel m) (hl : ∀ r ∈ sel rs, langOk vr r.lang nd = false) : m rs = false := by
  obtain ⟨c, p, hcp, hp⟩ := h
  rw [hcp, Bool.and_eq_false_iff, List.any_eq_false]
  exact .inr fun r hr => Bool.eq_false_iff.1 (hp r (hl r hr))

theorem Scans.const_false {nd : Node} {sel : RuleSet → List Rule} :
    Scans vr nd sel (fun _ => false) :=
  ⟨false, fun _ => false, fun _ => rfl, fun _ _ => rfl⟩

theorem callSource_scans :
    Scans vr (g.node n) (·.sources) (callSource vr g · n) := by
  unfold callSource
  rcases usedByPos g n vr.callSrcPos with ⟨_ | m, ms⟩
  · exact .const_false
  · cases defSym g n with
    | none => exact .const_false
    | some d =>
      exact ⟨true, _, fun _ => rfl, fun r h => by simp only [h, Bool.false_and]⟩

theorem objCallSource_scans : Scans vr (g.node n) (·.sources) (objCallSource vr g · n) :=
  ⟨_, _, fun _ => rfl, fun r h => by simp only [h, Bool.false_and]⟩

theorem paramSource_scans : Scans vr (g.node n) (·.sources) (paramSource vr g · n) := by
  unfold paramSource
  cases (g.outE n).head? with
  | none => exact .const_false
  | some e0 =>
    exact ⟨true, _, fun _ => rfl, fun r h => by simp only [h, Bool.false_and]⟩

theorem fieldReadSource_scans : Scans vr (g.node n) (·.sources) (fieldReadSource vr g · n) := by
  refine ⟨!((defSym g n).isNone || (defStates g (defSym g n)).isEmpty), ?p, ?eq, ?lang⟩
  case eq =>
    intro rs
    unfold fieldReadSource
    dsimp only
    cases ((defSym g n).isNone || (defStates g (defSym g n)).isEmpty) <;> rfl
  case lang => intro r h; simp only [h, Bool.false_and]

theorem callSink_scans : Scans vr (g.node n) (·.sinks) (callSink vr g · n) :=
  ⟨_, _, fun _ => rfl, fun r h => by simp only [h, Bool.false_and]⟩

theorem objCallSink_scans : Scans vr (g.node n) (·.sinks) (objCallSink vr g · n) :=
  ⟨_, _, fun _ => rfl, fun r h => by simp only [h, Bool.false_and]⟩

theorem recordSink_scans : Scans vr (g.node n) (·.sinks) (recordSink vr g · n) :=
  ⟨_, _, fun _ => rfl, fun r h => by simp only [h, Bool.false_and]⟩

theorem fieldSink_scans : Scans vr (g.node n) (·.sinks) (fieldSink vr g · n) :=
  ⟨_, _, fun _ => rfl, fun r h => by simp only [h, Bool.false_and]⟩

theorem usedByPos_of_no_pos {p : Int} (h : ∀ e ∈ g.inE n, e.pos ≠ p) :
    usedByPos g n p = (none, []) := by
  unfold usedByPos
  split
  · rfl
  · have hnone : (g.inE n).foldl (fun acc e => if e.pos == p then some e.peer else acc) none = none :=
      List.foldlRecOn (motive := (· = none)) _ _ rfl (fun acc hacc e he => by
        rw [if_neg (by simpa using h e he)]; exact hacc)
    rw [hnone]

theorem codeMatch_mono {l l' : List CodeRule} (h : l ⊆ l') {nd : Node}
    (hm : codeMatch vr nd l = true) : codeMatch vr nd l' = true :=
  any_mono h hm

theorem mem_findSources {o : Option Nat} :
    o ∈ findSources vr g rs ↔ ∃ n, n < g.size ∧ sourceOf vr g rs n = some o := by
  simp only [findSources, List.mem_filterMap, List.mem_range]

theorem mem_findSinks {k : Nat} :
    k ∈ findSinks vr g rs ↔ k < g.size ∧ isSink vr g rs k = true := by
  simp only [findSinks, List.mem_filter, List.mem_range]

theorem mem_findSources_some {s : Nat} : some s ∈ findSources vr g rs ↔
    ∃ n, n < g.size ∧ (g.node n).kind = K_STMT ∧ srcMatch vr g rs n = true ∧ defSym g n = some s := by
  simp only [mem_findSources, sourceOf_eq, bne_iff_ne, ne_eq, ite_not, Option.ite_none_right_eq_some,
    Option.some.injEq]

theorem srcMatch_mono (h : rs.le rs') (hm : srcMatch vr g rs n = true) :
    srcMatch vr g rs' n = true := by
  simp only [srcMatch, Bool.or_eq_true, Bool.and_eq_true] at hm ⊢
  exact hm.imp (.imp (.imp (.imp (.imp_right (callSource_scans.mono h.1))
    (.imp_right (objCallSource_scans.mono h.1))) (.imp_right (paramSource_scans.mono h.1)))
    (.imp_right (fieldReadSource_scans.mono h.1))) (codeMatch_mono h.2.2.1)

theorem findSources_mono (h : rs.le rs') {s : Nat} (hs : some s ∈ findSources vr g rs) :
    some s ∈ findSources vr g rs' :=
  let ⟨n, hn, hk, hm, hd⟩ := mem_findSources_some.1 hs
  mem_findSources_some.2 ⟨n, hn, hk, srcMatch_mono h hm, hd⟩

theorem isSink_mono (h : rs.le rs') (hm : isSink vr g rs n = true) : isSink vr g rs' n = true := by
  simp only [isSink, Bool.or_eq_true] at hm ⊢
  exact hm.imp (.imp (.imp (.imp (callSink_scans.mono h.2.1) (objCallSink_scans.mono h.2.1))
    (recordSink_scans.mono h.2.1)) (fieldSink_scans.mono h.2.1)) (codeMatch_mono h.2.2.2)

theorem findSinks_mono (h : rs.le rs') {k : Nat} (hk : k ∈ findSinks vr g rs) :
    k ∈ findSinks vr g rs' :=
  mem_findSinks.2 ⟨(mem_findSinks.1 hk).1, isSink_mono h (mem_findSinks.1 hk).2⟩

theorem sinkMatching_filter (vr : Variant) (g : Graph) (n : Nat) :
    ∃ p, ∀ rs, sinkMatching vr g rs n = rs.sinks.filter p := by
  unfold sinkMatching
  dsimp only
  by_cases h1 : ((g.node n).name == "call_stmt") = true
  · exact ⟨_, fun _ => if_pos h1⟩
  by_cases h2 : ((g.node n).name == "object_call_stmt") = true
  · exact ⟨_, fun _ => (if_neg h1).trans (if_pos h2)⟩
  by_cases h3 : ((g.node n).name == "field_write") = true
  · exact ⟨_, fun _ => (if_neg h1).trans ((if_neg h2).trans (if_pos h3))⟩
  · exact ⟨fun _ => false, fun _ => by simp [h1, h2, h3]⟩

theorem sinkMatching_other (h1 : (g.node n).name ≠ "call_stmt")
    (h2 : (g.node n).name ≠ "object_call_stmt") (h3 : (g.node n).name ≠ "field_write") :
    sinkMatching vr g rs n = [] := by
  unfold sinkMatching
  simp [h1, h2, h3]

theorem sinkMatching_mono (h : rs.sinks ⊆ rs'.sinks) {r : Rule}
    (hr : r ∈ sinkMatching vr g rs n) : r ∈ sinkMatching vr g rs' n := by
  obtain ⟨p, hp⟩ := sinkMatching_filter vr g n
  rw [hp, List.mem_filter] at hr ⊢
  exact ⟨h hr.1, hr.2⟩

/-- `langOk` is constantly true when `checkLang = false`, so the hypotheses can only hold for the
repaired code or for empty rule lists. -/
theorem srcMatch_wrong_lang (vr : Variant) (g : Graph) (rs : RuleSet) (n : Nat)
    (h1 : ∀ r ∈ rs.sources, langOk vr r.lang (g.node n) = false)
    (h2 : ∀ c ∈ rs.srcCode, langOk vr c.lang (g.node n) = false) : srcMatch vr g rs n = false := by
  have hcode : codeMatch vr (g.node n) rs.srcCode = false :=
    List.any_eq_false.2 (fun c hc => by simp [h2 c hc])
  simp only [srcMatch, callSource_scans.lang h1, objCallSource_scans.lang h1,
    paramSource_scans.lang h1, fieldReadSource_scans.lang h1, hcode, Bool.and_false, Bool.or_false]

theorem srcMatch_no_rules (vr : Variant) (g : Graph) (rs : RuleSet) (n : Nat)
    (h1 : rs.sources = []) (h2 : rs.srcCode = []) : srcMatch vr g rs n = false :=
  srcMatch_wrong_lang vr g rs n (by simp [h1]) (by simp [h2])

theorem isSink_no_rules (vr : Variant) (g : Graph) (rs : RuleSet) (n : Nat)
    (h1 : rs.sinks = []) (h2 : rs.sinkCode = []) : isSink vr g rs n = false := by
  have hl : ∀ r ∈ rs.sinks, langOk vr r.lang (g.node n) = false := by simp [h1]
  simp only [isSink, callSink_scans.lang hl, objCallSink_scans.lang hl, recordSink_scans.lang hl,
    fieldSink_scans.lang hl, codeMatch, h2, List.any_nil, Bool.or_false]

end LianVerif.TaintRules

namespace LianVerif.Taint
open LianVerif.Sfg LianVerif.TaintRules LianVerif.Reach

variable {g : Graph}

theorem inclBfs_sound (g : Graph) (v : Nat) (fuel : Nat) :
    ∀ (q vis : List Nat), (∀ x ∈ q, InclReach g v x) → (∀ x ∈ vis, InclReach g v x) →
      ∀ x ∈ inclBfs g fuel q vis, InclReach g v x := by
  induction fuel with
  | zero => intro q vis _ hv; unfold inclBfs; exact hv
  | succ n ih =>
    intro q vis hq hv
    cases q with
    | nil => unfold inclBfs; exact hv
    | cons u q =>
      have hnew : ∀ y ∈ (inclSuccs g u).foldl (fun (acc : List Nat) v =>
          if vis.contains v || acc.contains v then acc else acc ++ [v]) [], InclReach g v y := by
        refine List.foldlRecOn (motive := fun acc => ∀ y ∈ acc, InclReach g v y) _ _ (by simp)
          (fun acc hacc w hw => ?_)
        split
        · exact hacc
        · intro y hy
          rcases List.mem_append.1 hy with hy | hy
          · exact hacc y hy
          · rw [List.mem_singleton.1 hy]; exact .step (hq u (List.mem_cons_self ..)) hw
      unfold inclBfs
      refine ih _ _ (fun y hy => ?_) (fun y hy => ?_)
      · exact (List.mem_append.1 hy).elim (fun h => hq y (List.mem_cons_of_mem _ h)) (hnew y)
      · exact (List.mem_append.1 hy).elim (hv y) (hnew y)

theorem stateInclTag_sound {s : PState} {v : Nat} (h : stateInclTag g s v = true) :
    ∃ x, InclReach g v x ∧ g.nid x ∈ s.stT := by
  obtain ⟨x, hx, ht⟩ := List.any_eq_true.1 h
  have hv : ∀ y ∈ [v], InclReach g v y := fun y hy => List.mem_singleton.1 hy ▸ .refl
  exact ⟨x, inclBfs_sound g v _ [v] [v] hv hv x hx, List.contains_iff_mem.1 ht⟩

theorem symWithStatesTag_sound {s : PState} {p : Nat}
    (h : symWithStatesTag g s p = true) : ∃ l, Watch g p l ∧ TaggedLoc s l := by
  rcases Bool.or_eq_true .. ▸ h with h | h
  · exact ⟨symLoc g p, .self, taggedLoc_sym.2 (List.contains_iff_mem.1 h)⟩
  · obtain ⟨e, he, hp⟩ := List.any_eq_true.1 h
    rw [Bool.and_eq_true] at hp
    obtain ⟨x, hx, ht⟩ := stateInclTag_sound hp.2
    exact ⟨stLoc g x, .state he (beq_iff_eq.1 hp.1) hx, taggedLoc_st.2 ht⟩

/-- the contribution of one target when `target_pos` is re-initialised per target -/
def targetHit (g : Graph) (s : PState) (op : String) (used : List Edge) (t : Option String) : Bool :=
  used.any (fun e => posHit op t ((targetPos? t).getD (-1)) e && symWithStatesTag g s e.peer)

theorem sinkTagTarget_reset {vr : Variant} (hr : vr.resetTargetPos = true) (g : Graph) (s : PState)
    (op : String) (used : List Edge) (st : Option Int × Bool × Bool) (t : Option String) :
    sinkTagTarget vr g s op used st t =
      (some ((targetPos? t).getD (-1)), st.2.1 || targetHit g s op used t, st.2.2) := by
  unfold sinkTagTarget
  simp only [hr, if_true]
  rfl

theorem fold_targets_reset {vr : Variant} (hr : vr.resetTargetPos = true) (g : Graph) (s : PState)
    (op : String) (used : List Edge) (ts : List (Option String)) (st : Option Int × Bool × Bool) :
    (ts.foldl (sinkTagTarget vr g s op used) st).2 =
      (st.2.1 || ts.any (targetHit g s op used), st.2.2) := by
  induction ts generalizing st with
  | nil => simp
  | cons t ts ih => rw [List.foldl_cons, ih, sinkTagTarget_reset hr, List.any_cons, Bool.or_assoc]

/-- the from-code part of `get_sink_tag_by_rules` -/
def codeSinkHit (vr : Variant) (rs : RuleSet) (nd : Node) : Bool :=
  rs.sinkCode.any (fun c =>
    (!vr.codeSinkUnit || strIn c.unitPath nd.unitPath) &&
    langOk vr c.lang nd && nd.lineNo + 1 == c.lineNum && strIn c.symbolName nd.operation)

theorem sinkTag_reset {vr : Variant} (hr : vr.resetTargetPos = true) (g : Graph) (rs : RuleSet)
    (s : PState) (n : Nat) (hk : (g.node n).kind = K_STMT) :
    (sinkTag vr g rs s n).tag =
      ((sinkMatching vr g rs n).any (fun r => (targetsOf r).any
          (targetHit g s (g.node n).name ((g.inE n).filter (fun e => e.etype == E_USED)))) ||
       (codeSinkHit vr rs (g.node n) && (g.inE n).any (fun e =>
          (!vr.codeSinkSymOnly || g.kindOf e.peer == K_SYMBOL) && symWithStatesTag g s e.peer))) ∧
    (sinkTag vr g rs s n).err = false := by
  unfold sinkTag
  simp only [hk, bne_self_eq_false, Bool.false_eq_true, if_false]
  rw [← List.foldl_flatMap, fold_targets_reset hr, List.any_flatMap]
  exact ⟨rfl, rfl⟩

theorem sinkTag_nonstmt (vr : Variant) (g : Graph) (rs : RuleSet) (s : PState) (n : Nat)
    (hk : (g.node n).kind ≠ K_STMT) : (sinkTag vr g rs s n).tag = false := by
  unfold sinkTag
  have : ((g.node n).kind != K_STMT) = true := by simpa using hk
  simp [this]

theorem sinkTag_of_no_rule {vr : Variant} {rs : RuleSet} {s : PState} {n : Nat}
    (hm : sinkMatching vr g rs n = []) (hcode : codeSinkHit vr rs (g.node n) = false) :
    (sinkTag vr g rs s n).tag = false := by
  unfold sinkTag
  simp only [hm, List.foldl_nil]
  unfold codeSinkHit at hcode
  split
  · rfl
  · simp [hcode]

theorem sinkTag_iff {vr : Variant} (hr : vr.resetTargetPos = true) {rs : RuleSet} {s : PState}
    {n : Nat} : (sinkTag vr g rs s n).tag = true ↔ (g.node n).kind = K_STMT ∧
      ((∃ r ∈ sinkMatching vr g rs n, ∃ t ∈ targetsOf r, ∃ e ∈ g.inE n, e.etype = E_USED ∧
          posHit (g.node n).name t ((targetPos? t).getD (-1)) e = true ∧
          symWithStatesTag g s e.peer = true) ∨
       (codeSinkHit vr rs (g.node n) = true ∧ ∃ e ∈ g.inE n,
          (vr.codeSinkSymOnly = true → g.kindOf e.peer = K_SYMBOL) ∧
          symWithStatesTag g s e.peer = true)) := by
  by_cases hk : (g.node n).kind = K_STMT
  · have himp : ∀ {b c : Bool}, (!b || c) = true ↔ (b = true → c = true) := by
      intro b c; cases b <;> simp
    simp only [(sinkTag_reset hr g rs s n hk).1, hk, true_and, targetHit, Bool.or_eq_true,
      Bool.and_eq_true, List.any_eq_true, List.mem_filter, himp, beq_iff_eq, and_assoc]
  · simp only [sinkTag_nonstmt vr g rs s n hk, hk, false_and, Bool.false_eq_true]

theorem mem_findFlows {vr : Variant} {prm : Params} {rs : RuleSet}
    {sources sinks : List Nat} {f : Flow} :
    f ∈ findFlows vr g prm rs sources sinks ↔
      f.src ∈ sources ∧ f.sink ∈ sinks ∧
      (sinkTag vr g rs (propagate g prm f.src) f.sink).tag = true ∧
      f.vuln = (sinkTag vr g rs (propagate g prm f.src) f.sink).vuln := by
  simp only [findFlows, List.mem_flatMap, List.mem_filterMap, Option.ite_none_right_eq_some,
    Option.some.injEq]
  constructor
  · rintro ⟨src, hsrc, snk, hsnk, ht, rfl⟩
    exact ⟨hsrc, hsnk, ht, rfl⟩
  · rintro ⟨h1, h2, h3, h4⟩
    exact ⟨f.src, h1, f.sink, h2, h3, by rw [← h4]⟩

theorem mem_analyze {vr : Variant} {prm : Params} {rs : RuleSet} {f : Flow} :
    f ∈ analyze vr g prm rs ↔
      some f.src ∈ findSources vr g rs ∧ f.sink ∈ findSinks vr g rs ∧
      (sinkTag vr g rs (propagate g prm f.src) f.sink).tag = true ∧
      f.vuln = (sinkTag vr g rs (propagate g prm f.src) f.sink).vuln := by
  unfold analyze
  rw [mem_findFlows]
  simp only [List.mem_filterMap, id, exists_eq_right]

theorem sinkTag_mono {vr : Variant} (hr : vr.resetTargetPos = true) {rs rs' : RuleSet}
    (hle : rs.le rs') (s : PState) (n : Nat) (h : (sinkTag vr g rs s n).tag = true) :
    (sinkTag vr g rs' s n).tag = true := by
  rw [sinkTag_iff hr] at h ⊢
  exact ⟨h.1, h.2.imp (fun ⟨r, hrm, rest⟩ => ⟨r, sinkMatching_mono hle.2.1 hrm, rest⟩)
    (fun ⟨hc, rest⟩ => ⟨any_mono hle.2.2.2 hc, rest⟩)⟩

theorem analyze_nil_of_srcMatch {vr : Variant} {prm : Params} {rs : RuleSet}
    (h : ∀ n, srcMatch vr g rs n = false) : analyze vr g prm rs = [] :=
  List.eq_nil_iff_forall_not_mem.2 fun _ hf =>
    let ⟨n, _, _, hm, _⟩ := mem_findSources_some.1 (mem_analyze.1 hf).1
    absurd hm (by rw [h n]; exact Bool.false_ne_true)

end LianVerif.Taint
