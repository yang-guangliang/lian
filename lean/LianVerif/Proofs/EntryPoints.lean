/-
C20 (EntryPointGenerator).  The Boolean filters of the code (`unitMatches`, `methodMatches`,
`fileSelected`) are the predicates of the specification; the accumulator loops are unions of duplicate-free
sets, so the set saved after all units is the union over the units of what each selects (`foldl_collect`).
-/
import LianVerif.Model.EntryPoints
import LianVerif.Spec.EntrySelect
import LianVerif.Proofs.ListAux

namespace LianVerif.EntryPoints
open LianVerif.EntrySelect

theorem isInfix_iff {p s : Text} : isInfix p s = true ↔ p <:+: s := by
  induction s with
  | nil => simp [isInfix, List.isEmpty_iff]
  | cons c cs ih =>
    rw [isInfix, Bool.or_eq_true, ih, List.isPrefixOf_iff_prefix, List.infix_cons_iff]

theorem isInfix_nil (s : Text) : isInfix [] s = true := isInfix_iff.2 (List.nil_infix)

theorem not_isInfix_iff {p s : Text} : isInfix p s = false ↔ ¬ p <:+: s := by
  rw [← isInfix_iff]; simp

theorem basename_spec (p : Text) : IsBasename (basename p) p := by
  unfold IsBasename basename
  refine ⟨fun hm => by simpa using List.all_eq_true.1 List.all_takeWhile _ (List.mem_reverse.1 hm), ?_⟩
  -- `p` reversed is the kept part followed by what `takeWhile` stopped at, which starts with `/` if at all
  have h := congrArg List.reverse (List.takeWhile_append_dropWhile (p := fun c => c != '/') (l := p.reverse))
  have hd := List.head?_dropWhile_not (fun c => c != '/') p.reverse
  rw [List.reverse_append, List.reverse_reverse] at h
  cases hd' : p.reverse.dropWhile (fun c => c != '/') with
  | nil => rw [hd'] at h; exact .inl h
  | cons a t =>
    rw [hd'] at hd h
    obtain rfl : a = '/' := by simpa using hd
    rw [List.reverse_cons, List.append_assoc] at h
    exact .inr ⟨t.reverse, h.symm⟩

theorem mem_setAdd {s : List Int} {x y : Int} : x ∈ setAdd s y ↔ x ∈ s ∨ x = y := mem_addUnless

theorem mem_setUnion {a b : List Int} {x : Int} : x ∈ setUnion a b ↔ x ∈ a ∨ x ∈ b := mem_foldl_addUnless

theorem nodup_setAdd {s : List Int} (h : s.Nodup) (y : Int) : (setAdd s y).Nodup := nodup_addUnless h y

theorem nodup_setUnion {a b : List Int} (h : a.Nodup) : (setUnion a b).Nodup := nodup_foldl_addUnless h b

theorem matchedLoop_eq_any (rs : List Rule) (m : MethodScope) :
    matchedLoop rs m = rs.any (methodMatches · m) := by
  induction rs with
  | nil => rfl
  | cons r rs ih => unfold matchedLoop; rw [List.any_cons, ih]; cases methodMatches r m <;> rfl

theorem checkRules_eq (cands : List Rule) (ms : List MethodScope) : ∀ acc : List Int,
    checkRules cands ms acc = setUnion acc ((ms.filter (matchedLoop cands)).map (·.stmtId)) := by
  induction ms with
  | nil => intro acc; rfl
  | cons m ms ih =>
    intro acc
    unfold checkRules setUnion at ih ⊢
    rw [List.foldl_cons, ih, List.filter_cons]
    split <;> rfl

theorem names_iff {v : StrOrList} {x : Text} : v.has x = true ↔ Names v x := by
  cases v with
  | str s => simp [StrOrList.has, Names, isInfix_iff]
  | list l => simp [StrOrList.has, Names]

theorem ite_chain4 (c1 c2 c3 c4 : Bool) :
    (if c1 = true then false else if c2 = true then false else if c3 = true then false
      else if c4 = true then false else true) = (!c1 && !c2 && !c3 && !c4) := by
  cases c1 <;> cases c2 <;> cases c3 <;> cases c4 <;> rfl

/-- The guards `not p.isEmpty and …` before the two substring tests are redundant (`nil`: the empty text
is in every text), which is why `UnitOk` has none. -/
theorem unitMatches_iff {r : Rule} {u : UnitInfo} : unitMatches r u = true ↔ UnitOk r u := by
  unfold unitMatches UnitOk
  rw [ite_chain4]
  simp only [bne, Bool.not_and, Bool.not_not, Bool.and_eq_true, Bool.or_eq_true, List.isEmpty_iff, beq_iff_eq,
    Bool.not_eq_true', decide_eq_false_iff_not, isInfix_iff, and_assoc]
  have nil : ∀ p s : Text, (p = [] ∨ p <:+: s) ↔ p <:+: s := fun p s =>
    or_iff_right_of_imp (· ▸ List.nil_infix)
  exact and_congr Decidable.or_iff_not_imp_left
    (and_congr Decidable.imp_iff_not_or.symm (and_congr (nil _ _) (nil _ _)))

theorem methodMatches_iff {r : Rule} {m : MethodScope} : methodMatches r m = true ↔ MethodOk r m := by
  unfold methodMatches MethodOk
  by_cases h : 0 ≤ r.methodId
  · have hd : decide (r.methodId ≥ 0) = true := decide_eq_true h
    rw [if_pos hd, if_pos h]
    exact beq_iff_eq
  · have hd : ¬ (decide (r.methodId ≥ 0) = true) := by simpa using h
    rw [if_neg hd, if_neg h, ite_chain4]
    simp only [bne, Bool.and_eq_true, Bool.not_eq_true', Bool.and_eq_false_iff, Bool.or_eq_false_iff,
      Bool.not_eq_false', names_iff, List.isEmpty_iff, List.all_eq_true, isInfix_iff, beq_iff_eq,
      ne_eq, and_assoc]
    have he : List.isEmpty m.attrs = false ↔ ¬ m.attrs = [] := by
      rw [← List.isEmpty_iff]; simp
    rw [he]
    have avail : ∀ (b : Bool) (P : Prop), (b = false ∨ P) ↔ (b = true → P) := fun b P => by cases b <;> simp
    exact and_congr (avail _ _) (and_congr (avail _ _) (and_congr or_self_iff or_self_iff))

def UnitSelects (rules : List Rule) (um : UnitInfo × List MethodScope) (x : Int) : Prop :=
  ∃ m ∈ um.2, (∃ r ∈ rules, UnitOk r um.1 ∧ MethodOk r m) ∧ m.stmtId = x

theorem matchedLoop_filterRules {rules : List Rule} {u : UnitInfo} {m : MethodScope} :
    matchedLoop (filterRules rules u) m = true ↔ ∃ r ∈ rules, UnitOk r u ∧ MethodOk r m := by
  simp only [matchedLoop_eq_any, filterRules, List.any_eq_true, List.mem_filter, and_assoc, unitMatches_iff,
    methodMatches_iff]

/-- invariant carried through the unit loop: the loader's set and the generator's set agree -/
def Agree (st : State) : Prop := ∀ x, x ∈ st.saved ↔ x ∈ st.results

theorem collectUnit_eq (rules : List Rule) (st : State) (um : UnitInfo × List MethodScope) :
    collectUnit rules st um = if (filterRules rules um.1).isEmpty = true then st else
      { results := setUnion st.results ((um.2.filter (matchedLoop (filterRules rules um.1))).map (·.stmtId)),
        saved := setUnion st.saved
          (setUnion st.results ((um.2.filter (matchedLoop (filterRules rules um.1))).map (·.stmtId))) } := by
  unfold collectUnit
  simp only [checkRules_eq]

theorem collectUnit_results {rules : List Rule} {st : State} {um : UnitInfo × List MethodScope} {x : Int} :
    x ∈ (collectUnit rules st um).results ↔ x ∈ st.results ∨ UnitSelects rules um x := by
  rw [collectUnit_eq]
  by_cases hc : (filterRules rules um.1).isEmpty = true
  · rw [if_pos hc]
    refine ⟨Or.inl, fun h => h.resolve_right fun ⟨m, _, hm, _⟩ => ?_⟩
    have := matchedLoop_filterRules.2 hm
    rw [List.isEmpty_iff.1 hc] at this
    cases this
  · rw [if_neg hc]
    simp only [mem_setUnion, List.mem_map, List.mem_filter, matchedLoop_filterRules, UnitSelects, and_assoc]

theorem collectUnit_agree {rules : List Rule} {st : State} (h : Agree st) (um : UnitInfo × List MethodScope) :
    Agree (collectUnit rules st um) := by
  intro x
  have hres := @collectUnit_results rules st um x
  rw [collectUnit_eq] at hres ⊢
  by_cases hc : (filterRules rules um.1).isEmpty = true
  · rw [if_pos hc]; exact h x
  · rw [if_neg hc] at hres ⊢
    -- the new result set contains the old one, so adding it to `saved` gives the new result set
    show x ∈ setUnion _ _ ↔ _
    rw [mem_setUnion, h x]
    exact or_iff_right_of_imp fun h1 => hres.2 (Or.inl h1)

theorem collectUnit_nodup {rules : List Rule} {st : State} (h : st.results.Nodup ∧ st.saved.Nodup)
    (um : UnitInfo × List MethodScope) :
    (collectUnit rules st um).results.Nodup ∧ (collectUnit rules st um).saved.Nodup := by
  rw [collectUnit_eq]
  by_cases hc : (filterRules rules um.1).isEmpty = true
  · rw [if_pos hc]; exact h
  · rw [if_neg hc]; exact ⟨nodup_setUnion h.1, nodup_setUnion h.2⟩

theorem foldl_collect {rules : List Rule} (units : List (UnitInfo × List MethodScope)) :
    ∀ (st : State), Agree st → (st.results.Nodup ∧ st.saved.Nodup) →
      Agree (units.foldl (collectUnit rules) st) ∧
      ((units.foldl (collectUnit rules) st).results.Nodup ∧ (units.foldl (collectUnit rules) st).saved.Nodup) ∧
      ∀ x, x ∈ (units.foldl (collectUnit rules) st).results ↔
        x ∈ st.results ∨ ∃ um ∈ units, UnitSelects rules um x := by
  induction units with
  | nil => intro st h hn; exact ⟨h, hn, by simp⟩
  | cons um units ih =>
    intro st h hn
    obtain ⟨h1, h2, h3⟩ := ih (collectUnit rules st um) (collectUnit_agree h um) (collectUnit_nodup hn um)
    rw [List.foldl_cons]
    refine ⟨h1, h2, ?_⟩
    intro x
    simp only [h3 x, collectUnit_results, List.mem_cons, exists_eq_or_imp, or_assoc]

theorem collectAll_spec (rules : List Rule) (units : List (UnitInfo × List MethodScope)) :
    Agree (collectAll rules units) ∧
    ((collectAll rules units).results.Nodup ∧ (collectAll rules units).saved.Nodup) ∧
    ∀ x, x ∈ (collectAll rules units).results ↔ ∃ um ∈ units, UnitSelects rules um x := by
  obtain ⟨h1, h2, h3⟩ := foldl_collect (rules := rules) units {} (fun _ => Iff.rfl) ⟨List.nodup_nil, List.nodup_nil⟩
  exact ⟨h1, h2, fun x => (h3 x).trans (or_iff_right List.not_mem_nil)⟩

theorem select_mem {rules : List Rule} {units : List (UnitInfo × List MethodScope)} {x : Int} :
    x ∈ select rules units ↔ ∃ um ∈ units, UnitSelects rules um x :=
  ((collectAll_spec rules units).1 x).trans ((collectAll_spec rules units).2.2 x)

theorem select_nodup (rules : List Rule) (units : List (UnitInfo × List MethodScope)) :
    (select rules units).Nodup :=
  (collectAll_spec rules units).2.1.2

theorem collectAll_agree (rules : List Rule) (units : List (UnitInfo × List MethodScope)) :
    Agree (collectAll rules units) :=
  (collectAll_spec rules units).1

theorem selected_iff_of_unique {rules : List Rule} {units : List (UnitInfo × List MethodScope)} {u : UnitInfo}
    {ms : List MethodScope} {m : MethodScope} (hu : (u, ms) ∈ units) (hm : m ∈ ms)
    (huniq : ∀ um' ∈ units, ∀ m' ∈ um'.2, m'.stmtId = m.stmtId → um'.1 = u ∧ m' = m) :
    Selected rules units m.stmtId ↔ ∃ r ∈ rules, UnitOk r u ∧ MethodOk r m := by
  unfold Selected
  refine exists_congr fun r => and_congr_right fun _ => ⟨?_, fun h => ⟨(u, ms), hu, m, hm, rfl, h⟩⟩
  rintro ⟨um', hum', m', hm', hid, hok⟩
  obtain ⟨rfl, rfl⟩ := huniq um' hum' m' hm' hid
  exact hok

theorem methodOk_of_attrs_nil {r : Rule} {m : MethodScope} (hattrs : m.attrs = []) :
    MethodOk r m ↔ (0 ≤ r.methodId ∧ r.methodId = m.stmtId) ∨
      (r.methodId < 0 ∧ (r.methodList.avail = true → Names r.methodList m.name) ∧
        r.attrs.avail = false ∧ r.args = [] ∧ r.returnType = []) := by
  unfold MethodOk
  by_cases h0 : 0 ≤ r.methodId
  · simp [h0, Int.not_lt.2 h0]
  · simp [h0, Int.not_le.1 h0, hattrs]

theorem mem_p1Analysed {units : List P1Unit} {um : UnitInfo × List MethodScope} :
    um ∈ p1Analysed units ↔
      ∃ u ∈ units, (¬ (['{', '{'] <:+: u.info.path) ∧ u.girEmpty = false) ∧ (u.info, u.methods) = um := by
  simp only [p1Analysed, List.mem_map, List.mem_filter, p1Skipped, isCookiecutter, Bool.not_eq_true',
    Bool.or_eq_false_iff, not_isInfix_iff, and_assoc]

theorem takeWhile_dash_isEmpty (name : Text) :
    (name.takeWhile (fun c => c != '-')).isEmpty = true ↔ (name = [] ∨ name.head? = some '-') := by
  cases name with
  | nil => simp
  | cons a t =>
    rw [List.takeWhile_cons]
    by_cases h : a = '-'
    · subst h; simp
    · have : (a != '-') = true := by simpa using h
      simp [this, h]

theorem fileSelected_iff {req name : Text} : fileSelected req name = true ↔ IsRuleFile req name := by
  unfold fileSelected IsRuleFile
  by_cases h : name = req
  · subst h; simp
  · have hb : (name == req) = false := by simpa using h
    simp only [hb, Bool.false_eq_true, if_false, h, false_or]
    by_cases hs : ('-' :: req).isSuffixOf name = true
    · have hs' := List.isSuffixOf_iff_suffix.1 hs
      have hne : name ≠ [] := by
        rintro rfl
        have := List.IsSuffix.length_le hs'
        simp at this
      simp only [hs, if_true, hs', true_and]
      rw [Bool.not_eq_true', ← Bool.not_eq_true, takeWhile_dash_isEmpty]
      simp [hne]
    · have hs' : ¬ ('-' :: req) <:+ name := fun h' => hs (List.isSuffixOf_iff_suffix.2 h')
      simp [hs, hs']

theorem mem_loadRules {req : Text} {files : List (Text × List Rule)} {r : Rule} :
    r ∈ loadRules req files ↔ ∃ f ∈ files, IsRuleFile req f.1 ∧ r ∈ f.2 := by
  simp only [loadRules, List.mem_flatMap, List.mem_filter, fileSelected_iff, and_assoc]

theorem p3Roots_eq {G : Type} (analyse : Int → G) (entries : List Int) : p3Roots analyse entries = entries := by
  unfold p3Roots p3Run
  rw [List.map_map]
  exact List.map_id' entries

theorem sfgLookup_p3Run {G : Type} (analyse : Int → G) (entries : List Int) (m : Int) :
    sfgLookup (p3Run analyse entries) m = if m ∈ entries then some (analyse m) else none := by
  unfold sfgLookup p3Run
  induction entries with
  | nil => simp
  | cons e es ih =>
    by_cases h : e = m
    · subst h; simp
    · simp [h, Ne.symm h] at ih ⊢; exact ih

theorem mem_taintRun {G F : Type} (flowsOf : G → List F) (analyse : Int → G) (entries allMethods : List Int) (f : F) :
    f ∈ taintRun flowsOf (p3Run analyse entries) allMethods ↔
      ∃ e ∈ entries, e ∈ allMethods ∧ f ∈ flowsOf (analyse e) := by
  unfold taintRun
  simp only [List.mem_flatMap, sfgLookup_p3Run]
  refine exists_congr fun e => ?_
  by_cases he : e ∈ entries <;> simp [he]

end LianVerif.EntryPoints
