/-
Termination of the worklist (C10): on a consistently serialised, edge-typed SFG the loop of
`propagate_taint` empties the worklist within `fuelFor g` iterations.

Potential.  With N = number of nodes and counts over the nodes v < N:
  A = non-symbol nodes in the worklist,  B = symbol nodes in the worklist,
  Us / Ut = nodes whose id is not yet in the symbol / state table,
  R = nodes that are neither in `_processed_nodes` nor in the worklist,
  Φ = A + (N+1)·B + (N+2)·(Us + Ut + R)  =  W + N·B + (N+2)·U   with W = A + B, U = Us + Ut + R.
Every iteration decreases Φ: a dequeued statement or state costs 1 and each of its actions pays for
what it enqueues with a newly tagged id or a node leaving R; a dequeued symbol costs N+1 and its
unconditional SYMBOL_IS_USED enqueues add at most N to A (they are distinct statements).
Per action only the linear facts "U, B + U and (unless it is such an enqueue) W + U do not increase"
are tracked; the products enter only in `pot_le` and `pot_lt`, and in the bound `phi_le_fuel`.
-/
import LianVerif.Proofs.Taint
import LianVerif.Proofs.ListAux

namespace LianVerif.Taint
open LianVerif.Sfg LianVerif.TaintRules

def cnt : (n : Nat) → (p : Nat → Prop) → [DecidablePred p] → Nat
  | 0, _, _ => 0
  | n + 1, p, _ => cnt n p + (if p n then 1 else 0)

section
variable {n : Nat} {p q : Nat → Prop} [DecidablePred p] [DecidablePred q]

theorem cnt_le (n : Nat) (p : Nat → Prop) [DecidablePred p] : cnt n p ≤ n := by
  induction n with
  | zero => exact Nat.le_refl _
  | succ n ih =>
    simp only [cnt]; split
    · exact Nat.succ_le_succ ih
    · exact Nat.le_succ_of_le ih

theorem cnt_mono (h : ∀ v, v < n → p v → q v) : cnt n p ≤ cnt n q := by
  induction n with
  | zero => exact Nat.le_refl _
  | succ n ih =>
    refine Nat.add_le_add (ih fun v hv => h v (Nat.lt_succ_of_lt hv)) ?_
    by_cases hpn : p n
    · rw [if_pos hpn, if_pos (h n (Nat.lt_succ_self n) hpn)]; exact Nat.le_refl _
    · rw [if_neg hpn]; exact Nat.zero_le _

theorem cnt_insert {x : Nat} (hx : x < n) (hp : ¬ p x) :
    cnt n (fun v => p v ∨ v = x) = cnt n p + 1 := by
  induction n with
  | zero => exact absurd hx (Nat.not_lt_zero _)
  | succ n ih =>
    simp only [cnt]
    by_cases hxn : x = n
    · subst hxn
      have : cnt x (fun v => p v ∨ v = x) = cnt x p :=
        Nat.le_antisymm (cnt_mono fun v hv h => h.resolve_right (Nat.ne_of_lt hv))
          (cnt_mono fun v _ => .inl)
      simp [this, hp]
    · rw [ih (Nat.lt_of_le_of_ne (Nat.le_of_lt_succ hx) hxn)]
      simp only [or_iff_left (Ne.symm hxn)]
      exact Nat.add_right_comm ..

theorem cnt_lt (h : ∀ v, v < n → p v → q v) {x : Nat} (hx : x < n) (hq : q x) (hp : ¬ p x) :
    cnt n p + 1 ≤ cnt n q := by
  rw [← cnt_insert hx hp]
  exact cnt_mono fun v hv hv' => hv'.elim (h v hv) (· ▸ hq)

theorem cnt_add_one {x : Nat} (h : ∀ v, v < n → q v → p v ∨ v = x) : cnt n q ≤ cnt n p + 1 := by
  by_cases hx : x < n ∧ ¬ p x
  · rw [← cnt_insert hx.1 hx.2]
    exact cnt_mono h
  · refine Nat.le_succ_of_le (cnt_mono fun v hv hqv => (h v hv hqv).elim id fun hvx => ?_)
    subst hvx
    exact Decidable.not_not.1 fun hn => hx ⟨hv, hn⟩

end

/-- a new entry `f x` in the table `l` takes at least the node `x` out of the untagged ones -/
theorem cnt_cons_lt {n : Nat} (f : Nat → Int) (l : List Int) {x : Nat} (hx : x < n)
    (hn : f x ∉ l) : cnt n (fun v => f v ∉ f x :: l) + 1 ≤ cnt n (fun v => f v ∉ l) :=
  cnt_lt (fun _ _ hv h => hv (List.mem_cons_of_mem _ h)) hx hn (fun h => h (List.mem_cons_self ..))

def cW (g : Graph) (s : PState) : Nat := cnt g.size (· ∈ s.wl)
def cB (g : Graph) (s : PState) : Nat := cnt g.size (fun v => v ∈ s.wl ∧ g.kindOf v = K_SYMBOL)
def cUs (g : Graph) (s : PState) : Nat := cnt g.size (fun v => g.nid v ∉ s.symT)
def cUt (g : Graph) (s : PState) : Nat := cnt g.size (fun v => g.nid v ∉ s.stT)
def cR (g : Graph) (s : PState) : Nat := cnt g.size (fun v => v ∉ s.processed ∧ v ∉ s.wl)
def cU (g : Graph) (s : PState) : Nat := cUs g s + cUt g s + cR g s

def pot (n w b u : Nat) : Nat := w + n * b + (n + 2) * u

def Phi (g : Graph) (s : PState) : Nat := pot g.size (cW g s) (cB g s) (cU g s)

theorem pot_le {n w b u w' b' u' k : Nat} (hu : u' ≤ u) (hb : b' + u' ≤ b + u)
    (hw : w' + u' + k ≤ w + u) : pot n w' b' u' + k ≤ pot n w b u := by
  have h1 := Nat.mul_le_mul_left n hb
  simp only [pot, Nat.mul_add, Nat.add_mul] at h1 ⊢
  omega

/-- when `B + U` drops, `W` may be anything up to `n` afterwards -/
theorem pot_lt {n w b u w' b' u' : Nat} (hu : u' ≤ u) (hb : b' + u' + 1 ≤ b + u) (hw' : w' ≤ n)
    (hw : 1 ≤ w) : pot n w' b' u' + 1 ≤ pot n w b u := by
  have h1 := Nat.mul_le_mul_left n hb
  simp only [pot, Nat.mul_add, Nat.add_mul, Nat.mul_one] at h1 ⊢
  omega

/-- the worklist holds node indices, each at most once: a dequeue then lowers `W`, and `W ≤ N` -/
def WInv (g : Graph) (s : PState) : Prop := s.wl.Nodup ∧ ∀ v ∈ s.wl, v < g.size

variable {g : Graph}

theorem enqueue_rest (s : PState) (v x : Nat)
    (hx : x ∉ (enqueue s v).processed ∧ x ∉ (enqueue s v).wl) : x ∉ s.processed ∧ x ∉ s.wl :=
  ⟨enqueue_processed s v ▸ hx.1, fun h => hx.2 (mem_enqueue_iff.2 (.inl h))⟩

theorem enqueue_counts (s : PState) (v : Nat) :
    cU g (enqueue s v) ≤ cU g s ∧ cW g (enqueue s v) ≤ cW g s + 1 ∧
    cB g (enqueue s v) ≤ cB g s + 1 ∧ (g.kindOf v ≠ K_SYMBOL → cB g (enqueue s v) ≤ cB g s) := by
  have hR : cR g (enqueue s v) ≤ cR g s := cnt_mono (fun x _ => enqueue_rest s v x)
  refine ⟨?_, cnt_add_one (x := v) (fun x _ hx => mem_enqueue_iff.1 hx),
    cnt_add_one (x := v) (fun x _ hx => (mem_enqueue_iff.1 hx.1).imp_left (⟨·, hx.2⟩)),
    fun hk => cnt_mono (fun x _ hx =>
      ⟨(mem_enqueue_iff.1 hx.1).resolve_right (fun h => hk (h ▸ hx.2)), hx.2⟩)⟩
  unfold cU cUs cUt; rw [enqueue_symT, enqueue_stT]; exact Nat.add_le_add_left hR _

theorem enqueue_fresh {s : PState} {v : Nat} (hv : v < g.size) (h1 : v ∉ s.wl)
    (h2 : v ∉ s.processed) : cU g (enqueue s v) + 1 ≤ cU g s := by
  have : cR g (enqueue s v) + 1 ≤ cR g s :=
    cnt_lt (fun x _ => enqueue_rest s v x) hv ⟨h2, h1⟩ (fun h => h.2 (mem_enqueue_iff.2 (.inr rfl)))
  unfold cU cUs cUt; rw [enqueue_symT, enqueue_stT]; exact Nat.add_le_add_left this _

theorem winv_enqueue {s : PState} {v : Nat} (h : WInv g s) (hv : v < g.size) :
    WInv g (enqueue s v) := by
  refine ⟨?_, fun x hx => (mem_enqueue_iff.1 hx).elim (h.2 x) (· ▸ hv)⟩
  rw [enqueue_wl]
  exact nodup_addUnless h.1 v

theorem tagSym_fresh {s : PState} {v : Nat} (hv : v < g.size) (hn : g.nid v ∉ s.symT) :
    cU g { s with symT := g.nid v :: s.symT } + 1 ≤ cU g s := by
  have := cnt_cons_lt g.nid s.symT hv hn
  simp only [cU, cUs, cUt, cR] at this ⊢
  omega

theorem tagSt_fresh {s : PState} {v : Nat} (hv : v < g.size) (hn : g.nid v ∉ s.stT) :
    cU g { s with stT := g.nid v :: s.stT } + 1 ≤ cU g s := by
  have := cnt_cons_lt g.nid s.stT hv hn
  simp only [cU, cUs, cUt, cR] at this ⊢
  omega

def Pays (g : Graph) (s t : PState) (noEnq : Prop) : Prop :=
  cU g t ≤ cU g s ∧ cB g t + cU g t ≤ cB g s + cU g s ∧
  (noEnq → cW g t + cU g t ≤ cW g s + cU g s) ∧ WInv g t

theorem Pays.refl {s : PState} (hw : WInv g s) (noEnq : Prop) : Pays g s s noEnq :=
  ⟨Nat.le_refl _, Nat.le_refl _, fun _ => Nat.le_refl _, hw⟩

theorem pays_enqueue {s s' : PState} {v : Nat} (noEnq : Prop) (hv : v < g.size)
    (hU : cU g (enqueue s' v) + 1 ≤ cU g s) (hW : cW g s' = cW g s) (hB : cB g s' = cB g s)
    (hw : WInv g s') : Pays g s (enqueue s' v) noEnq := by
  obtain ⟨_, e2, e3, _⟩ := enqueue_counts (g := g) s' v
  exact ⟨Nat.le_of_succ_le hU, by omega, fun _ => by omega, winv_enqueue hw hv⟩

theorem applyAct_pays {s : PState} {a : Act} (hok : ActOK g a) (hin : actNode a < g.size)
    (hw : WInv g s) : Pays g s (applyAct g s a) (∀ v, a ≠ .enq v) := by
  have tagged : ∀ {s' : PState} {v : Nat}, v < g.size → cU g s' + 1 ≤ cU g s → cW g s' = cW g s →
      cB g s' = cB g s → WInv g s' → Pays g s (enqueue s' v) (∀ v, a ≠ .enq v) :=
    fun hv h1 h2 h3 h4 => pays_enqueue _ hv
      (Nat.le_trans (Nat.add_le_add_right (enqueue_counts _ _).1 1) h1) h2 h3 h4
  refine applyAct_cases g s a (motive := fun t => Pays g s t (∀ v, a ≠ .enq v)) (fun _ => .refl hw _)
    (fun v hv => ?_) (fun v hv _ hp => ?_) (fun v hv hn => ?_) (fun v hv hn => ?_)
  · subst hv
    obtain ⟨e1, _, _, e4⟩ := enqueue_counts (g := g) s v
    have := e4 (fun hk => absurd ((show g.kindOf v = K_STMT from hok).symm.trans hk)
      kinds_ne.2.1.symm)
    exact ⟨e1, Nat.add_le_add this e1, fun h => absurd rfl (h v), winv_enqueue hw hin⟩
  · subst hv
    by_cases hwl : v ∈ s.wl
    · rw [show enqueue s v = s by unfold enqueue; rw [if_pos (List.contains_iff_mem.2 hwl)]]
      exact .refl hw _
    · exact pays_enqueue _ hin (enqueue_fresh hin hwl hp) rfl rfl hw
  · have hv' : v < g.size := by rcases hv with rfl | rfl <;> exact hin
    exact tagged hv' (tagSym_fresh hv' hn) rfl rfl hw
  · subst hv
    exact tagged hin (tagSt_fresh hin hn) rfl rfl hw

theorem foldl_pays {acts : List Act} {s : PState} (hok : ∀ a ∈ acts, ActOK g a)
    (hin : ∀ a ∈ acts, actNode a < g.size) (hw : WInv g s) (noEnq : Prop)
    (hs : noEnq → ∀ a ∈ acts, ∀ v, a ≠ .enq v) :
    Pays g s (acts.foldl (applyAct g) s) noEnq := by
  refine List.foldlRecOn (motive := fun t => Pays g s t noEnq) _ _
    (Pays.refl hw noEnq) (fun t ⟨h1, h2, h3, h4⟩ a ha => ?_)
  obtain ⟨p1, p2, p3, p4⟩ := applyAct_pays (hok a ha) (hin a ha) h4
  exact ⟨Nat.le_trans p1 h1, Nat.le_trans p2 h2,
    fun hst => Nat.le_trans (p3 (hs hst a ha)) (h3 hst), p4⟩

theorem Emits.enq_symbol {prm : Params} {u v : Nat} (h : Emits g prm u (.enq v)) :
    g.kindOf u = K_SYMBOL := by
  cases h
  assumption

theorem step_pot {prm : Params} (hc : Consistent g) (ht : EdgeTyped g)
    {s : PState} (hw : WInv g s) (hne : s.wl ≠ []) :
    Phi g (step g prm s) + 1 ≤ Phi g s ∧ WInv g (step g prm s) := by
  cases hwl : s.wl with
  | nil => exact absurd hwl hne
  | cons x rest =>
    rw [step_cons hwl]
    obtain ⟨hxr, hnd⟩ := List.nodup_cons.1 (hwl ▸ hw.1)
    have hx : x < g.size := hw.2 x (hwl ▸ List.mem_cons_self ..)
    have hmem : ∀ v, v ∈ s.wl ↔ v = x ∨ v ∈ rest := fun v => hwl ▸ List.mem_cons
    have hw1 : WInv g (deq s x rest) := ⟨hnd, fun v hv => hw.2 v ((hmem v).2 (.inr hv))⟩
    have hU : cU g (deq s x rest) ≤ cU g s :=
      Nat.add_le_add_left (cnt_mono fun v _ hv =>
        ⟨fun h => hv.1 (mem_addNode.2 (.inl h)), fun h => ((hmem v).1 h).elim
          (fun h => hv.1 (mem_addNode.2 (.inr h))) hv.2⟩) _
    have hW : cW g (deq s x rest) < cW g s :=
      cnt_lt (fun v _ hv => (hmem v).2 (.inr hv)) hx ((hmem x).2 (.inl rfl)) hxr
    have hsym : ∀ v, v < g.size → v ∈ (deq s x rest).wl ∧ g.kindOf v = K_SYMBOL →
        v ∈ s.wl ∧ g.kindOf v = K_SYMBOL := fun v _ hv => ⟨(hmem v).2 (.inr hv.1), hv.2⟩
    have hB : cB g (deq s x rest) ≤ cB g s := cnt_mono hsym
    have hBU := Nat.add_le_add hB hU
    have hWU := Nat.add_lt_add_of_lt_of_le hW hU
    have cold : Phi g (deq s x rest) + 1 ≤ Phi g s := pot_le hU hBU hWU
    refine ite_all (fun t => Phi g t + 1 ≤ Phi g s ∧ WInv g t) ?_ ⟨cold, hw1⟩
    have hok : ∀ a ∈ actsOf g prm x, actNode a < g.size ∧ ActOK g a :=
      fun a ha => (mem_actsOf.1 ha).ok hc ht
    have pays := foldl_pays (fun a ha => (hok a ha).2) (fun a ha => (hok a ha).1) hw1
    by_cases hk : g.kindOf x = K_SYMBOL
    · -- a symbol leaves the worklist: B decreases; afterwards W ≤ N
      have hB1 : cB g (deq s x rest) < cB g s :=
        cnt_lt hsym hx ⟨(hmem x).2 (.inl rfl), hk⟩ (fun h => hxr h.1)
      obtain ⟨p1, p2, _, p4⟩ := pays False (fun h => h.elim)
      exact ⟨pot_lt (Nat.le_trans p1 hU) (Nat.lt_of_le_of_lt p2 (Nat.add_lt_add_of_lt_of_le hB1 hU))
        (cnt_le _ _) (Nat.zero_lt_of_lt hW), p4⟩
    · obtain ⟨p1, p2, p3, p4⟩ := pays True
        (fun _ a ha v hav => hk (hav ▸ mem_actsOf.1 ha).enq_symbol)
      exact ⟨pot_le (Nat.le_trans p1 hU) (Nat.le_trans p2 hBU) (Nat.lt_of_le_of_lt (p3 trivial) hWU), p4⟩

theorem run_terminates {prm : Params} (hc : Consistent g) (ht : EdgeTyped g)
    (fuel : Nat) : ∀ {s : PState}, WInv g s → Phi g s ≤ fuel → (run g prm fuel s).wl = [] := by
  induction fuel with
  | zero =>
    intro s hw hle
    unfold run
    by_cases hne : s.wl = []
    · exact hne
    · exact absurd (Nat.le_trans (step_pot (prm := prm) hc ht hw hne).1 hle) (Nat.not_succ_le_zero _)
  | succ n ih =>
    intro s hw hle
    unfold run
    split
    · rename_i he
      simpa using he
    · rename_i he
      obtain ⟨h1, h2⟩ := step_pot (prm := prm) hc ht hw (by simpa using he)
      exact ih h2 (Nat.le_of_succ_le_succ (Nat.le_trans h1 hle))

theorem phi_le_fuel (s : PState) : Phi g s + 1 ≤ fuelFor g := by
  have h1 := cnt_le g.size (· ∈ s.wl)
  have h2 : g.size * cB g s ≤ g.size * g.size := Nat.mul_le_mul_left _ (cnt_le _ _)
  have h3 : (g.size + 2) * cU g s ≤ (g.size + 2) * (g.size + g.size + g.size) :=
    Nat.mul_le_mul_left _ (Nat.add_le_add (Nat.add_le_add (cnt_le _ _) (cnt_le _ _)) (cnt_le _ _))
  simp only [Phi, pot, fuelFor, cW, Nat.add_mul, Nat.one_mul] at *
  omega

theorem winv_init (hc : Consistent g) (src : Nat) : WInv g (initState g src) := by
  have one : src < g.size → WInv g { wl := [src] } := fun h =>
    ⟨by simp, fun v hv => List.mem_singleton.1 hv ▸ h⟩
  by_cases hlt : src < g.size
  · rw [initState_eq]
    refine ite_all (WInv g) ?_ (ite_all _ (one hlt) (ite_all _ (one hlt)
      ⟨by simp, fun v hv => absurd hv (by simp)⟩))
    refine List.foldlRecOn (motive := WInv g) _ _ (one hlt) (fun s hs e he => ?_)
    unfold initF
    exact ite_all (WInv g) (winv_enqueue (s := { s with stT := addId s.stT (g.nid e.peer) }) hs
      (hc.1 _ _ he).2.1) hs
  · have : initState g src = {} := by rw [initState_eq, kindOf_of_ge (Nat.le_of_not_lt hlt)]; rfl
    rw [this]
    exact ⟨by simp, fun v hv => absurd hv (by simp)⟩

theorem propagate_terminates (prm : Params) (hwf : g.wf = true) (hty : edgeTyped g = true)
    (src : Nat) : (propagate g prm src).wl = [] := by
  have hc := consistent_of_wf hwf
  exact run_terminates hc (edgeTyped_of_check hc hty) _ (winv_init hc src)
    (Nat.le_of_succ_le (phi_le_fuel _))

end LianVerif.Taint
