/-
Proofs/Fold.lean — the folding model: size guard, what `fold` stores, collecting the pair results.
-/
import LianVerif.Model.Fold
import LianVerif.Proofs.PyStrLit

namespace LianVerif.FoldProofs
open LianVerif.PyStrLit LianVerif.Fold

theorem pow_bound : 2 ^ maxBits < 10 ^ 4300 := by decide +kernel

theorem printable_of_bits (n : Int) (h : bitLength n ≤ maxBits) : unprintable (.int n) = false := by
  unfold unprintable
  simp only [decide_eq_false_iff_not, Nat.not_le]
  unfold bitLength at h
  by_cases h0 : n.natAbs = 0
  · rw [h0]; apply Nat.pow_pos; decide
  · simp only [h0, if_false] at h
    have h1 : n.natAbs < 2 ^ (Nat.log2 n.natAbs + 1) := Nat.lt_log2_self
    have h2 : 2 ^ (Nat.log2 n.natAbs + 1) ≤ 2 ^ maxBits := Nat.pow_le_pow_right (by decide) h
    exact Nat.lt_of_lt_of_le h1 (Nat.le_trans h2 (Nat.le_of_lt pow_bound))

theorem not_unprintable_of_not_overLimit (v : Obj) (h : overLimit v = false) : unprintable v = false := by
  cases v with
  | str s => rfl
  | bool b => rfl
  | int n =>
    simp only [overLimit, decide_eq_false_iff_not, Nat.not_lt] at h
    exact printable_of_bits n h

/-- the size guard lets through only operands that `str` can print (4096 bits are fewer than 4300 digits). -/
theorem printable_of_guard {o : Op} {v1 v2 : Obj} {isStr : Bool} (h : tooLarge o v1 v2 isStr = some false) :
    (unprintable v1 || unprintable v2) = false := by
  cases hc : (overLimit v1 || overLimit v2) with
  | true => rw [tooLarge, hc, if_pos rfl] at h; cases h
  | false =>
    rw [Bool.or_eq_false_iff] at hc
    rw [not_unprintable_of_not_overLimit _ hc.1, not_unprintable_of_not_overLimit _ hc.2]; rfl

theorem tooLarge_str (o : Op) (s1 s2 : Str) : tooLarge o (.str s1) (.str s2) true = some (o == .mod) := rfl

theorem int_result_avail (o : Op) (a b : Int) (v : PyVal) (hv : pyBinop o (.int a) (.int b) = .ok v) :
    avail (PyVal.toObj v) = true := by
  cases v with
  | int _ | bool _ => rfl
  | str s =>
    have h : intBinop o a b = .ok (.str s) := hv
    -- every branch of `intBinop` that is an `.ok` holds an `.int` or a `.bool`, never a (possibly empty) string
    cases o <;> simp only [intBinop, apply_ite (· = R.ok (PyVal.str s)), reduceCtorEq, R.ok.injEq, ite_self] at h

theorem tooLarge_int_some (o : Op) (a b : Int) : tooLarge o (.int a) (.int b) false ≠ none := by
  -- `pyInt?` of an `.int` object is `some (some _)`, so every branch of the guard is a `some`
  unfold tooLarge
  simp only [pyInt?]
  repeat' split
  all_goals simp

/-- what `fold` stores for the result `r` of evaluating the text, once the guards are passed. -/
def stored (o : Op) (v1 v2 : Obj) (dt : DT) (r : R PyVal) : Out :=
  match r with
  | .ok v => if oversized v then .none else if avail (PyVal.toObj v) then .state v dt else .none
  | .err => if oversized (.str (fallback o v1 v2)) then .none else .state (.str (fallback o v1 v2)) .string
  | .unmodelled => .unmodelled

theorem stored_bounded {o : Op} {v1 v2 : Obj} {dt dt' : DT} {r : R PyVal} {v : PyVal}
    (h : stored o v1 v2 dt r = .state v dt') : oversized v = false := by
  -- the two branches that store a state come right after a failed `if oversized …`
  cases r with
  | ok w =>
    simp only [stored] at h
    split at h
    · cases h
    · next hov =>
      split at h
      · cases h; exact Bool.eq_false_iff.2 hov
      · cases h
  | err =>
    simp only [stored] at h
    split at h
    · cases h
    · next hov => cases h; exact Bool.eq_false_iff.2 hov
  | unmodelled => cases h

theorem stored_ne_crash (o : Op) (v1 v2 : Obj) (dt : DT) (r : R PyVal) : stored o v1 v2 dt r ≠ .crash := by
  unfold stored
  repeat' split
  all_goals exact Out.noConfusion

/-- `isStr`: one of the operands is a %string, which decides between the two forms of text. -/
theorem fold_of_operands (P : Ch → Bool) {opText : String} {o : Op} (ho : Op.ofString opText = some o) {s1 s2 : St}
    {isStr : Bool} (hs : (decide (s1.dt = .string) || decide (s2.dt = .string)) = isStr)
    (ha : (avail s1.val && isBuiltin s1.dt && avail s2.val && isBuiltin s2.dt) = true)
    (hd : ¬ (s1.dt = .otherBuiltin ∨ s2.dt = .otherBuiltin)) :
    fold P opText s1 s2 =
      match tooLarge o s1.val s2.val isStr with
      | none => .unmodelled
      | some true => .none
      | some false =>
        stored o s1.val s2.val (if isStr then .string else .int)
          (pyEval (if isStr then pyRepr P (pyStr s1.val) ++ (sp o ++ pyRepr P (pyStr s2.val))
            else (40 :: (pyStr s1.val ++ [41])) ++ (sp o ++ (40 :: (pyStr s2.val ++ [41]))))) := by
  subst hs
  unfold fold
  simp only [ha, ho, hd, Bool.not_true, Bool.false_eq_true, ↓reduceIte]
  cases hg : tooLarge o s1.val s2.val (decide (s1.dt = .string) || decide (s2.dt = .string)) with
  | none => rfl
  | some b =>
    cases b with
    | true => rfl
    | false => simp only [printable_of_guard hg, Bool.false_eq_true, if_false]; rfl

theorem fold_str_str (P : Ch → Bool) {opText : String} {o : Op} (ho : Op.ofString opText = some o) {s1 s2 : Str}
    (h1 : s1 ≠ []) (h2 : s2 ≠ []) :
    fold P opText ⟨.str s1, .string⟩ ⟨.str s2, .string⟩ =
      if o = .mod then .none
      else stored o (.str s1) (.str s2) .string (pyEval (pyRepr P s1 ++ (sp o ++ pyRepr P s2))) := by
  rw [fold_of_operands P ho rfl (by simp [avail, isBuiltin, h1, h2]) (by simp)]
  show (match tooLarge o (.str s1) (.str s2) true with
    | none => _ | some true => _
    | some false => stored o (.str s1) (.str s2) .string (pyEval (pyRepr P s1 ++ (sp o ++ pyRepr P s2)))) = _
  rw [tooLarge_str]
  by_cases hm : o = .mod
  · rw [if_pos hm, hm]; rfl
  · rw [if_neg hm, beq_eq_false_iff_ne.2 hm]

theorem fold_int_int (P : Ch → Bool) {opText : String} {o : Op} (ho : Op.ofString opText = some o) (a b : Int) :
    fold P opText ⟨.int a, .int⟩ ⟨.int b, .int⟩ =
      match tooLarge o (.int a) (.int b) false with
      | none => .unmodelled
      | some true => .none
      | some false => stored o (.int a) (.int b) .int (pyEval (intText o a b)) :=
  fold_of_operands P ho rfl rfl (by simp)

theorem fold_cases (P : Ch → Bool) (opText : String) (s1 s2 : St) :
    fold P opText s1 s2 = .none ∨ fold P opText s1 s2 = .unmodelled ∨
      ∃ o dt r, fold P opText s1 s2 = stored o s1.val s2.val dt r := by
  by_cases ha : (avail s1.val && isBuiltin s1.dt && avail s2.val && isBuiltin s2.dt) = true
  · cases ho : Op.ofString opText with
    | none => right; left; unfold fold; simp only [ha, ho, Bool.not_true, Bool.false_eq_true, ↓reduceIte]
    | some o =>
      by_cases hd : s1.dt = .otherBuiltin ∨ s2.dt = .otherBuiltin
      · right; left; unfold fold; simp only [ha, ho, hd, Bool.not_true, Bool.false_eq_true, ↓reduceIte]
      · rw [fold_of_operands P ho rfl ha hd]
        split
        · exact .inr (.inl rfl)
        · exact .inl rfl
        · exact .inr (.inr ⟨_, _, _, rfl⟩)
  · left; unfold fold; simp only [ha, Bool.not_false, ↓reduceIte]

/-- `outState?` made total; the default is met only outside "every out is a state", where it is not used. -/
def outVal : Out → OState
  | .state v dt => .val v dt
  | _ => .anything

theorem contains_false_of_all_states (outs : List Out) (h : ∀ o ∈ outs, ∃ v dt, o = Out.state v dt)
    (x : Out) (hx : ∀ v dt, x ≠ Out.state v dt) : outs.contains x = false := by
  cases hcx : outs.contains x with
  | false => rfl
  | true =>
    obtain ⟨v, dt, e⟩ := h x (List.contains_iff_mem.1 hcx)
    exact absurd e (hx v dt)

theorem filterMap_all_states : ∀ (outs : List Out), (∀ o ∈ outs, ∃ v dt, o = Out.state v dt) →
    outs.filterMap outState? = outs.map outVal
  | [], _ => rfl
  | o :: rest, h => by
    obtain ⟨v, dt, rfl⟩ := h o (List.mem_cons_self ..)
    exact congrArg (OState.val v dt :: ·) (filterMap_all_states rest (fun o' ho' => h o' (List.mem_cons_of_mem _ ho')))

theorem anything_not_mem_map_outVal (outs : List Out) (h : ∀ o ∈ outs, ∃ v dt, o = Out.state v dt) :
    OState.anything ∉ outs.map outVal := by
  intro hm
  obtain ⟨o, ho, e⟩ := List.mem_map.1 hm
  obtain ⟨v, dt, rfl⟩ := h o ho
  cases e

theorem collect_all_states (outs : List Out) (h : ∀ o ∈ outs, ∃ v dt, o = Out.state v dt) :
    collect outs = .states (outs.map outVal) := by
  unfold collect
  rw [contains_false_of_all_states outs h .crash (by intro v dt; simp),
      contains_false_of_all_states outs h .unmodelled (by intro v dt; simp)]
  simp only [Bool.false_eq_true, if_false]
  rw [filterMap_all_states outs h]

theorem binStates_eq_states {P : Ch → Bool} {opText : String} {S1 S2 : List AState} {l : List OState} :
    binStates P opText S1 S2 = .states l ↔
      ∃ l', collect ((regPairs S1 S2).map (fun p => fold P opText p.1 p.2)) = .states l' ∧
        l = if l'.isEmpty || someSkipped S1 S2 ((regPairs S1 S2).map (fun p => fold P opText p.1 p.2)) then
          l' ++ [.anything] else l' := by
  simp only [binStates]
  cases collect ((regPairs S1 S2).map (fun p => fold P opText p.1 p.2)) with
  | states l' =>
    simp only [BinRes.states.injEq, exists_eq_left']
    split <;> rw [BinRes.states.injEq] <;> exact eq_comm
  | crash => simp
  | unmodelled => simp

end LianVerif.FoldProofs
