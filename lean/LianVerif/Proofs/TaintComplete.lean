/-
Completeness of the worklist (C10): on a consistently serialised, edge-typed SFG on which the
worklist has emptied, every `Live` node has been dequeued while it carried the tag.

`Inv` relates the state to a list `L` of nodes dequeued hot so far; most of its clauses say that some
node is `Served`: in `L`, or queued and hot.  One `_propagate_from_*` call is a `Grow` step (nothing
is lost, and whatever is new has an owner in the worklist), under which `Served` is monotone; taking
a node from the worklist moves it into `L` when it is hot and cannot un-serve anything when it is not.
With an empty worklist the invariant makes `L` closed under `LiveInit` / `LiveStep`.
-/
import LianVerif.Proofs.Taint

namespace LianVerif.Taint
open LianVerif.Sfg LianVerif.TaintRules LianVerif.Reach

variable {g : Graph} {prm : Params} {src : Nat}

structure Grow (g : Graph) (s t : PState) : Prop where
  proc : t.processed = s.processed
  tag : ∀ l, TaggedLoc s l → TaggedLoc t l
  wl : ∀ v ∈ s.wl, v ∈ t.wl
  newWl : ∀ v ∈ t.wl, v ∈ s.wl ∨ (g.kindOf v = K_SYMBOL → g.nid v ∈ t.symT)
  newSym : ∀ i ∈ t.symT, i ∈ s.symT ∨ ∃ v ∈ t.wl, symOwner g v = true ∧ g.nid v = i
  newSt : ∀ i ∈ t.stT, i ∈ s.stT ∨ ∃ v ∈ t.wl, g.kindOf v = K_STATE ∧ g.nid v = i

theorem Grow.refl (s : PState) : Grow g s s :=
  ⟨rfl, fun _ h => h, fun _ h => h, fun _ h => .inl h, fun _ h => .inl h, fun _ h => .inl h⟩

theorem Grow.trans {a b c : PState} (h1 : Grow g a b) (h2 : Grow g b c) : Grow g a c where
  proc := h2.proc.trans h1.proc
  tag l h := h2.tag l (h1.tag l h)
  wl v h := h2.wl v (h1.wl v h)
  newWl v h := (h2.newWl v h).elim
    (fun h => (h1.newWl v h).imp id (fun h hk => taggedLoc_sym.1 (h2.tag _ (taggedLoc_sym.2 (h hk))))) .inr
  newSym i h := (h2.newSym i h).elim
    (fun h => (h1.newSym i h).imp id (fun ⟨v, hv, hp⟩ => ⟨v, h2.wl v hv, hp⟩)) .inr
  newSt i h := (h2.newSt i h).elim
    (fun h => (h1.newSt i h).imp id (fun ⟨v, hv, hp⟩ => ⟨v, h2.wl v hv, hp⟩)) .inr

theorem grow_enqueue {s : PState} {v : Nat} (hv : g.kindOf v = K_SYMBOL → g.nid v ∈ s.symT) :
    Grow g s (enqueue s v) where
  proc := enqueue_processed s v
  tag _ h := taggedLoc_enqueue.2 h
  wl _ h := mem_enqueue_iff.2 (.inl h)
  newWl x h := (mem_enqueue_iff.1 h).imp id (fun hx => by rw [hx, enqueue_symT]; exact hv)
  newSym i h := .inl (enqueue_symT s v ▸ h)
  newSt i h := .inl (enqueue_stT s v ▸ h)

theorem grow_tagSym {s : PState} {v : Nat} (hv : symOwner g v = true) :
    Grow g s (enqueue { s with symT := g.nid v :: s.symT } v) where
  proc := enqueue_processed ..
  tag _ h := taggedLoc_enqueue.2 (taggedLoc_consSym.2 (.inl h))
  wl _ h := mem_enqueue_iff.2 (.inl h)
  newWl x h := (mem_enqueue_iff.1 h).imp id
    (fun hx _ => by rw [hx, enqueue_symT]; exact List.mem_cons_self ..)
  newSym i h := by
    rw [enqueue_symT] at h
    exact (List.mem_cons.1 h).symm.imp id (fun hi => ⟨v, mem_enqueue_iff.2 (.inr rfl), hv, hi.symm⟩)
  newSt i h := .inl (by rw [enqueue_stT] at h; exact h)

theorem grow_tagSt {s : PState} {v : Nat} (hv : g.kindOf v = K_STATE) :
    Grow g s (enqueue { s with stT := g.nid v :: s.stT } v) where
  proc := enqueue_processed ..
  tag _ h := taggedLoc_enqueue.2 (taggedLoc_consSt.2 (.inl h))
  wl _ h := mem_enqueue_iff.2 (.inl h)
  newWl x h := (mem_enqueue_iff.1 h).imp id
    (fun hx hk => absurd (hv.symm.trans (hx ▸ hk)) kinds_ne.1.symm)
  newSym i h := .inl (by rw [enqueue_symT] at h; exact h)
  newSt i h := by
    rw [enqueue_stT] at h
    exact (List.mem_cons.1 h).symm.imp id (fun hi => ⟨v, mem_enqueue_iff.2 (.inr rfl), hv, hi.symm⟩)

theorem grow_applyAct {s : PState} {a : Act} (ha : ActOK g a) : Grow g s (applyAct g s a) := by
  refine applyAct_cases g s a (fun _ => .refl s) (fun v hv => grow_enqueue fun hk => ?_)
    (fun v _ hin _ => grow_enqueue fun _ => hin) (fun v hv _ => grow_tagSym ?_)
    (fun v hv _ => grow_tagSt (by subst hv; exact ha))
  · subst hv
    exact absurd ((show g.kindOf v = K_STMT from ha).symm.trans hk) kinds_ne.2.1.symm
  · rcases hv with rfl | rfl <;> exact ha

theorem grow_foldl {acts : List Act} (hok : ∀ a ∈ acts, ActOK g a) (s : PState) :
    Grow g s (acts.foldl (applyAct g) s) :=
  List.foldlRecOn (motive := Grow g s) _ _ (.refl s)
    (fun _ ht a ha => ht.trans (grow_applyAct (hok a ha)))

theorem foldl_after {σ ε : Type} {f : σ → ε → σ} {P : σ → Prop} {es : List ε} {e0 : ε}
    (he : e0 ∈ es) (h0 : ∀ s, P (f s e0)) (hmono : ∀ s, ∀ e ∈ es, P s → P (f s e)) (s : σ) :
    P (es.foldl f s) := by
  induction es generalizing s with
  | nil => exact absurd he (by simp)
  | cons e es ih =>
    have hm := fun s e' he' => hmono s e' (List.mem_cons_of_mem _ he')
    rcases List.mem_cons.1 he with rfl | he
    · exact List.foldlRecOn es f (h0 s) (fun s hs e he => hm s e he hs)
    · exact ih he hm _

theorem queued_of_enq {acts : List Act} {v : Nat} (hok : ∀ a ∈ acts, ActOK g a) (h : Act.enq v ∈ acts)
    (s : PState) : v ∈ (acts.foldl (applyAct g) s).wl :=
  foldl_after (P := (v ∈ ·.wl)) h (fun _ => mem_enqueue_iff.2 (.inr rfl))
    (fun _ a ha hs => (grow_applyAct (hok a ha)).wl v hs) s

theorem queued_or_processed_of_tagSymP {acts : List Act} {v : Nat} (hok : ∀ a ∈ acts, ActOK g a)
    (h : Act.tagSymP v ∈ acts) (s : PState) :
    v ∈ (acts.foldl (applyAct g) s).wl ∨ v ∈ (acts.foldl (applyAct g) s).processed := by
  refine foldl_after (P := fun t => v ∈ t.wl ∨ v ∈ t.processed) h (fun s => ?_)
    (fun s a ha hs => ?_) s
  · simp only [applyAct]
    split
    · split
      · rename_i hp; exact .inr (List.contains_iff_mem.1 hp)
      · exact .inl (mem_enqueue_iff.2 (.inr rfl))
    · exact .inl (mem_enqueue_iff.2 (.inr rfl))
  · have hg := grow_applyAct (s := s) (hok a ha)
    exact hs.imp (hg.wl v) (hg.proc ▸ ·)

def Served (g : Graph) (s : PState) (L : List Nat) (v : Nat) : Prop :=
  v ∈ L ∨ (v ∈ s.wl ∧ nodeTag g s v = true)

theorem nodeTag_grow {s t : PState} (hg : Grow g s t) {u : Nat} (h : nodeTag g s u = true) :
    nodeTag g t u = true :=
  nodeTag_iff.2 ((nodeTag_iff.1 h).mono hg.tag)

theorem Served.grow {s t : PState} {L : List Nat} {v : Nat} (h : Served g s L v) (hg : Grow g s t) :
    Served g t L v :=
  h.imp id (fun ⟨h1, h2⟩ => ⟨hg.wl v h1, nodeTag_grow hg h2⟩)

theorem Served.dequeue {s : PState} {L L' : List Nat} {x v : Nat} {rest : List Nat}
    (h : Served g s L v) (hwl : s.wl = x :: rest) (hsub : ∀ u ∈ L, u ∈ L')
    (hx : nodeTag g s x = true → x ∈ L') : Served g (deq s x rest) L' v := by
  rcases h with h | ⟨h1, h2⟩
  · exact .inl (hsub v h)
  · rcases List.mem_cons.1 (hwl ▸ h1) with rfl | h1
    · exact .inl (hx h2)
    · exact .inr ⟨h1, h2⟩

/-- `L`: the nodes dequeued hot so far; `C`: those of them whose consequences are all tagged and whose
`LiveStep` successors are all served.  `C` is `L` except between the dequeue of a hot node `x` and the
end of its `_propagate_from_*` call, where `L = x :: C`. -/
structure Inv (g : Graph) (prm : Params) (src : Nat) (s : PState) (L C : List Nat) : Prop where
  wlSymTagged : ∀ v ∈ s.wl, g.kindOf v = K_SYMBOL → g.nid v ∈ s.symT
  doneHot : ∀ u ∈ L, u ∈ s.processed ∧ nodeTag g s u = true
  procSymDone : ∀ v ∈ s.processed, g.kindOf v = K_SYMBOL → v ∈ L
  ownSt : ∀ v, g.kindOf v = K_STATE → UniqueSt g v → g.nid v ∈ s.stT → Served g s L v
  ownSym : ∀ v, g.kindOf v = K_SYMBOL → UniqueSym g v → g.nid v ∈ s.symT → Served g s L v
  base : ∀ v, LiveInit g src v → Served g s L v
  cl : ∀ u ∈ C, (∀ l, Conseq g prm u l → TaggedLoc s l) ∧ ∀ v, LiveStep g prm u v → Served g s L v

theorem Inv.grow {s t : PState} {L C : List Nat} (h : Inv g prm src s L C) (hg : Grow g s t) :
    Inv g prm src t L C where
  wlSymTagged v hv hk := (hg.newWl v hv).elim
    (fun hv => taggedLoc_sym.1 (hg.tag _ (taggedLoc_sym.2 (h.wlSymTagged v hv hk)))) (· hk)
  doneHot u hu := ⟨hg.proc ▸ (h.doneHot u hu).1, nodeTag_grow hg (h.doneHot u hu).2⟩
  procSymDone v hv := h.procSymDone v (hg.proc ▸ hv)
  ownSt v hk hu hv := (hg.newSt _ hv).elim (fun hv => (h.ownSt v hk hu hv).grow hg)
    (fun ⟨x, hx, hkx, hid⟩ => .inr ⟨hu x hid hkx ▸ hx, nodeTag_st hk hv⟩)
  ownSym v hk hu hv := (hg.newSym _ hv).elim (fun hv => (h.ownSym v hk hu hv).grow hg)
    (fun ⟨x, hx, hox, hid⟩ => .inr ⟨hu x hid hox ▸ hx, (nodeTag_sym hk).2 hv⟩)
  base v hv := (h.base v hv).grow hg
  cl u hu := ⟨fun l hl => hg.tag l ((h.cl u hu).1 l hl), fun v hs => ((h.cl u hu).2 v hs).grow hg⟩

theorem Inv.dequeue {s : PState} {L L' C : List Nat} {x : Nat} {rest : List Nat}
    (h : Inv g prm src s L C) (hwl : s.wl = x :: rest) (hsub : ∀ u ∈ L, u ∈ L')
    (hx : nodeTag g s x = true → x ∈ L')
    (hL' : ∀ u ∈ L', u ∈ L ∨ (u = x ∧ nodeTag g s x = true)) :
    Inv g prm src (deq s x rest) L' C where
  wlSymTagged v hv := h.wlSymTagged v (hwl ▸ List.mem_cons_of_mem _ hv)
  doneHot u hu := (hL' u hu).elim (fun hu => ⟨mem_addNode.2 (.inl (h.doneHot u hu).1), (h.doneHot u hu).2⟩)
    (fun ⟨hu, hhot⟩ => ⟨mem_addNode.2 (.inr hu), hu ▸ hhot⟩)
  procSymDone v hv hk := (mem_addNode.1 hv).elim (fun hv => hsub v (h.procSymDone v hv hk))
    -- the dequeued node itself: a queued symbol carries its tag (`wlSymTagged`), so it is hot and in `L'`
    (fun hv => hv ▸ hx ((nodeTag_sym (hv ▸ hk)).2
      (h.wlSymTagged x (hwl ▸ List.mem_cons_self ..) (hv ▸ hk))))
  ownSt v hk hu hv := (h.ownSt v hk hu hv).dequeue hwl hsub hx
  ownSym v hk hu hv := (h.ownSym v hk hu hv).dequeue hwl hsub hx
  base v hv := (h.base v hv).dequeue hwl hsub hx
  cl u hu := ⟨(h.cl u hu).1, fun v hs => ((h.cl u hu).2 v hs).dequeue hwl hsub hx⟩

theorem Inv.deq_hot {s : PState} {L C : List Nat} {x : Nat} {rest : List Nat}
    (h : Inv g prm src s L C) (hwl : s.wl = x :: rest) (hhot : nodeTag g s x = true) :
    Inv g prm src (deq s x rest) (x :: L) C :=
  h.dequeue hwl (fun _ hu => List.mem_cons_of_mem _ hu) (fun _ => List.mem_cons_self ..)
    (fun _ hu => (List.mem_cons.1 hu).symm.imp id (⟨·, hhot⟩))

theorem Inv.deq_cold {s : PState} {L C : List Nat} {x : Nat} {rest : List Nat}
    (h : Inv g prm src s L C) (hwl : s.wl = x :: rest) (hcold : ¬ nodeTag g s x = true) :
    Inv g prm src (deq s x rest) L C :=
  h.dequeue hwl (fun _ hu => hu) (fun hh => absurd hh hcold) (fun _ hu => .inl hu)

theorem liveStep_served (hc : Consistent g) (ht : EdgeTyped g) {s : PState} {L C : List Nat} {x : Nat}
    (hinv : Inv g prm src ((actsOf g prm x).foldl (applyAct g) s) L C) (hx : x ∈ L)
    {v : Nat} (hs : LiveStep g prm x v) : Served g ((actsOf g prm x).foldl (applyAct g) s) L v := by
  have hok : ∀ a ∈ actsOf g prm x, ActOK g a := fun a ha => ((mem_actsOf.1 ha).ok hc ht).2
  have symTagged : ∀ {v}, Conseq g prm x (symLoc g v) →
      g.nid v ∈ ((actsOf g prm x).foldl (applyAct g) s).symT :=
    fun hl => taggedLoc_sym.1 (taggedLoc_fire.2 (.inr hl))
  have stTagged : ∀ {v}, Conseq g prm x (stLoc g v) →
      g.nid v ∈ ((actsOf g prm x).foldl (applyAct g) s).stT :=
    fun hl => taggedLoc_st.1 (taggedLoc_fire.2 (.inr hl))
  have reenq : ∀ {e : Edge}, Act.tagSymP e.peer ∈ actsOf g prm x → g.kindOf e.peer = K_SYMBOL →
      g.nid e.peer ∈ ((actsOf g prm x).foldl (applyAct g) s).symT →
      Served g ((actsOf g prm x).foldl (applyAct g) s) L e.peer := fun ha hpk htag =>
    (queued_or_processed_of_tagSymP hok ha s).symm.imp (hinv.procSymDone _ · hpk)
      (⟨·, (nodeTag_sym hpk).2 htag⟩)
  cases hs with
  | use hk he het =>
    exact .inr ⟨queued_of_enq hok (mem_actsOf.2 (.use hk he het)) s,
      nodeTag_stmt ((ht _ _ he).2 het) (hc.1 _ _ he).2.2 het
        ((nodeTag_sym hk).1 (hinv.doneHot x hx).2)⟩
  | defn hk hp he het hpk =>
    exact reenq (mem_actsOf.2 (.stmtDef hk hp he het)) hpk (symTagged (.stmtDef hk hp he het))
  | recv hk hp hn he het hpos hpk =>
    exact reenq (mem_actsOf.2 (.recv hk hp hn he het hpos hpk)) hpk
      (symTagged (.recv hk hp hn he het hpos hpk))
  | symState hk he het hu =>
    exact hinv.ownSt _ ((ht _ _ he).1 het).2 hu (stTagged (.symState hk he het))
  | flow hk he het hpk hu =>
    exact hinv.ownSym _ hpk hu (symTagged (.symFlow hk he het hpk))
  | stateUp hk he het hpk hu =>
    exact hinv.ownSym _ hpk hu (symTagged (.stateUp hk he het (fun _ => hpk)))
  | stateDown hk he hpk het hu =>
    exact hinv.ownSt _ hpk hu (stTagged (.stateDown hk he hpk het))

theorem inv_step (hc : Consistent g) (ht : EdgeTyped g) {s : PState}
    (h : ∃ L, Inv g prm src s L L) : ∃ L, Inv g prm src (step g prm s) L L := by
  obtain ⟨L, h⟩ := h
  cases hwl : s.wl with
  | nil => rw [step_nil hwl]; exact ⟨L, h⟩
  | cons x rest =>
    rw [step_cons hwl]
    split
    · rename_i hhot
      have fin : Inv g prm src ((actsOf g prm x).foldl (applyAct g) (deq s x rest)) (x :: L) L :=
        (h.deq_hot hwl hhot).grow (grow_foldl (fun a ha => ((mem_actsOf.1 ha).ok hc ht).2) _)
      refine ⟨x :: L, { fin with cl := fun u hu => ?_ }⟩
      rcases List.mem_cons.1 hu with rfl | hu
      · exact ⟨fun l hl => taggedLoc_fire.2 (.inr hl),
          fun v hs => liveStep_served hc ht fin (List.mem_cons_self ..) hs⟩
      · exact fin.cl u hu
    · rename_i hcold
      exact ⟨L, h.deq_cold hwl hcold⟩

theorem inv_init (ht : EdgeTyped g) : Inv g prm src (initState g src) [] [] where
  wlSymTagged v hv hk := by
    rcases mem_init_wl.1 hv with ⟨hks, rfl | ⟨e, he, het, rfl⟩⟩ | ⟨hks, rfl⟩ | ⟨hks, rfl⟩
    · exact taggedLoc_sym.1 (taggedLoc_init.2 (.inl ⟨hks, .inl rfl⟩))
    · exact absurd (hk.symm.trans ((ht _ _ he).1 het).2) kinds_ne.1
    · exact absurd (hk.symm.trans hks) kinds_ne.1
    · exact absurd (hk.symm.trans hks) kinds_ne.2.1
  doneHot u hu := absurd hu (by simp)
  procSymDone v hv := absurd (init_processed ▸ hv) (by simp)
  ownSt v hk hu hv := by
    rcases taggedLoc_init.1 (taggedLoc_st.2 hv) with ⟨hks, h | ⟨e, he, het, h⟩⟩ | ⟨hks, h⟩
    · cases h
    · have := hu e.peer (Prod.mk.inj h).2 ((ht _ _ he).1 het).2
      exact .inr ⟨mem_init_wl.2 (.inl ⟨hks, .inr ⟨e, he, het, this.symm⟩⟩), nodeTag_st hk hv⟩
    · have := hu src (Prod.mk.inj h).2 hks
      exact .inr ⟨mem_init_wl.2 (.inr (.inl ⟨hks, this.symm⟩)), nodeTag_st hk hv⟩
  ownSym v hk hu hv := by
    rcases taggedLoc_init.1 (taggedLoc_sym.2 hv) with ⟨hks, h | ⟨e, he, het, h⟩⟩ | ⟨hks, h⟩
    · have := hu src (Prod.mk.inj h).2 (symOwner_iff.2 (.inl hks))
      exact .inr ⟨mem_init_wl.2 (.inl ⟨hks, .inl this.symm⟩), (nodeTag_sym hk).2 hv⟩
    · cases h
    · cases h
  base v hv := by
    cases hv with
    | srcSym hk =>
      exact .inr ⟨mem_init_wl.2 (.inl ⟨hk, .inl rfl⟩),
        (nodeTag_sym hk).2 (taggedLoc_sym.1 (taggedLoc_init.2 (.inl ⟨hk, .inl rfl⟩)))⟩
    | srcSymState hk he het =>
      exact .inr ⟨mem_init_wl.2 (.inl ⟨hk, .inr ⟨_, he, het, rfl⟩⟩), nodeTag_st ((ht _ _ he).1 het).2
        (taggedLoc_st.1 (taggedLoc_init.2 (.inl ⟨hk, .inr ⟨_, he, het, rfl⟩⟩)))⟩
    | srcState hk =>
      exact .inr ⟨mem_init_wl.2 (.inr (.inl ⟨hk, rfl⟩)),
        nodeTag_st hk (taggedLoc_st.1 (taggedLoc_init.2 (.inr ⟨hk, rfl⟩)))⟩
  cl u hu := absurd hu (by simp)

theorem inv_run (hc : Consistent g) (ht : EdgeTyped g) (fuel : Nat) :
    ∃ L, Inv g prm src (run g prm fuel (initState g src)) L L :=
  run_inv (P := fun s => ∃ L, Inv g prm src s L L) (fun _ => inv_step hc ht) fuel ⟨[], inv_init ht⟩

theorem Inv.live {s : PState} {L : List Nat} (hinv : Inv g prm src s L L) (hdone : s.wl = [])
    {u : Nat} (hl : Live g prm src u) :
    u ∈ s.processed ∧ nodeTag g s u = true ∧ ∀ l, Conseq g prm u l → TaggedLoc s l := by
  have served : ∀ {v}, Served g s L v → v ∈ L := fun h =>
    h.elim id (fun h => absurd (hdone ▸ h.1) (by simp))
  have hmem : u ∈ L := by
    induction hl with
    | init hi => exact served (hinv.base _ hi)
    | step _ hs ih => exact served ((hinv.cl _ ih).2 _ hs)
  exact ⟨(hinv.doneHot u hmem).1, (hinv.doneHot u hmem).2, (hinv.cl u hmem).1⟩

end LianVerif.Taint
