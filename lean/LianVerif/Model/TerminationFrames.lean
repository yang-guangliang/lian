/-
C13 — abstract termination models, part 2: the frame-stack driver of the top-down phase.

Mirrors `P3GlobalSemanticAnalysis.analyze_frame_stack` / `init_compute_frame`
(src/lian/core/global_semantics.py) and the call cut-offs of
`GlobalStmtStates.compute_target_method_states` (src/lian/core/global_stmt_states.py):

* one dictionary `call_site_analyze_counter` per entry point, shared by all frames;
* a callee `k` requested at call statement `s` of a frame of method `m` is descended into unless
  the extended call path is already stored (`path_manager.path_exists`), or has more than one
  cycle (`count_cycles() > 1`), or the call site was already analysed for this interruption
  (`content_already_analyzed`), or its counter exceeds `MAX_ANALYSIS_ROUND_FOR_CALL_SITE`;
  every descent increments the counter first;
* quirk kept: the fifth test of the code, `each_callee_id in self.frame.call_path`, compares an
  `int` with `CallSite` objects and is therefore always false — it cuts nothing and is absent here
  (the harness probes `5 in CallPath((CallSite(1,2,5),))` and reports a correspondence break when
  that ever becomes true);
* a request none of whose callees survives the tests does not interrupt; it increments the counters
  of all requested sites and stores their paths (lines 167–172).

The statement analysis of a frame is abstract: a `Runner` is ANY function from (global state, frame,
tick) to (new global state, new local state, optional interruption, inner cost) that never lowers a
call-site counter and pays one unit of call-site budget for every callee it asks the driver to
descend into.  `scriptRunner` (requests come from an arbitrary oracle and go through `request`,
the model of the cut-offs) is the instance used for the theorems "for every behaviour of the
statement analysis" and for replaying real runs; `visitRunner` (TerminationTotal.lean) plugs in
the visit loop of part 1.

Written without fuel; the ranking function is `4·budget + Σ frame weights`.
No imports outside LianVerif.Model: linked into `lvdrv`.
-/
import LianVerif.Model.Termination
import LianVerif.Model.PathStore

namespace LianVerif.Termination
open LianVerif

/-- `CallSite(caller_id, call_stmt_id, callee_id)` -/
abbrev Site := Int × Int × Int

/-- `not CallSite.has_negative()` -/
def siteValid (s : Site) : Bool := decide (0 ≤ s.1) && decide (0 ≤ s.2.1) && decide (0 ≤ s.2.2)

def countCyclesGo : List Site → List Int → Nat
  | [], _ => 0
  | s :: rest, visited =>
    (if visited.contains s.2.2 then 1 else 0) + countCyclesGo rest (s.1 :: s.2.2 :: visited)

/-- `CallPath.count_cycles` -/
def countCycles (p : List Site) : Nat := countCyclesGo p []

/-- per-entry-point global state -/
structure Glob where
  cnt : Site → Nat                       -- `call_site_analyze_counter.get(site, 0)`
  paths : PathStore.Store Site           -- `path_manager` (shared by all entry points)

def bumpSite (cnt : Site → Nat) (s : Site) : Site → Nat := fun x => if x = s then cnt x + 1 else cnt x

def Glob.addPath (G : Glob) (p : List Site) : Glob :=
  { G with paths := (PathStore.mgrAdd siteValid G.paths p).1 }

def Glob.pathExists (G : Glob) (p : List Site) : Bool := G.paths.terms.contains p

/-- remaining call-site budget over the static universe `U` of call sites -/
def budget (U : List Site) (B : Nat) (cnt : Site → Nat) : Nat := sumOver (fun u => B + 1 - cnt u) U

structure Frame (φ : Type) where
  method : Int
  callStmt : Int
  path : List Site                       -- `frame.call_path`
  caa : List (Site × Bool)               -- `frame.content_already_analyzed` (insertion-ordered dict)
  inited : Bool
  loc : φ

def caaGet (caa : List (Site × Bool)) (s : Site) : Bool :=
  match caa.find? (fun p => p.1 == s) with
  | some p => p.2
  | none => false

def pendingCount (caa : List (Site × Bool)) : Nat := (caa.filter (fun p => !p.2)).length

/-- first key whose value is `False`; returns it and the dict with that value set to `True`. -/
def takePending : List (Site × Bool) → Option (Site × List (Site × Bool))
  | [] => none
  | (s, b) :: rest =>
    if b then
      match takePending rest with
      | some (k, rest') => some (k, (s, b) :: rest')
      | none => none
    else some (s, (s, true) :: rest)

/-- `content_already_analyzed = {}; for callee in callee_ids: if key not in …: …[key] = False` -/
def mkCaa (caller stmt : Int) : List Int → List (Site × Bool) → List (Site × Bool)
  | [], acc => acc
  | k :: ks, acc =>
    if acc.any (fun p => p.1 == (caller, stmt, k)) then mkCaa caller stmt ks acc
    else mkCaa caller stmt ks (acc ++ [((caller, stmt, k), false)])

/-! ### The cut-offs: `compute_target_method_states` up to the interruption decision -/

/-- the loop `for each_callee_id in callee_method_ids` (lines 111–125): returns the updated global
state and `callee_ids_to_be_analyzed`.  The membership test in `U` is the model's only addition: it
makes the universe of call sites finite (the harness passes every site the real run touched and
reports a break if a real request falls outside). -/
def request {φ : Type} (U : List Site) (B : Nat) (f : Frame φ) (stmt : Int) :
    List Int → Glob → List Int → Glob × List Int
  | [], G, todo => (G, todo)
  | k :: ks, G, todo =>
    let site : Site := (f.method, stmt, k)
    let calleePath := f.path ++ [site]
    if G.pathExists calleePath || decide (countCycles calleePath > 1) || caaGet f.caa site
        || decide (G.cnt site > B) || !U.contains site then
      request U B f stmt ks G todo
    else
      request U B f stmt ks { G with cnt := bumpSite G.cnt site } (todo ++ [k])

/-- lines 167–172, reached when nothing is to be analysed: count and store every requested site. -/
def settle {φ : Type} (f : Frame φ) (stmt : Int) : List Int → Glob → Glob
  | [], G => G
  | k :: ks, G =>
    let site : Site := (f.method, stmt, k)
    let G1 : Glob := { G with cnt := bumpSite G.cnt site }
    let G2 := if f.method != k then G1.addPath (f.path ++ [site]) else G1
    settle f stmt ks G2

/-! ### Runners -/

structure RunOut (φ : Type) where
  glob : Glob
  loc : φ
  intr : Option (Int × List Int)         -- `InterruptionData.call_stmt_id`, `.callee_ids`
  cost : Nat                             -- statement-loop iterations spent in this invocation

/-- ANY behaviour of `analyze_stmts(frame)` as seen by the driver, subject to two laws. -/
structure Runner (U : List Site) (B : Nat) (φ : Type) where
  run : Glob → Frame φ → Nat → RunOut φ
  mono : ∀ G f t u, G.cnt u ≤ (run G f t).glob.cnt u
  pay : ∀ G f t s ks, (run G f t).intr = some (s, ks) →
    budget U B (run G f t).glob.cnt + ks.length ≤ budget U B G.cnt

theorem budget_anti (U : List Site) (B : Nat) {c c' : Site → Nat} (h : ∀ u, c u ≤ c' u) :
    budget U B c' ≤ budget U B c :=
  sumOver_le U fun v => Nat.sub_le_sub_left (h v) (B + 1)

theorem le_bumpSite (cnt : Site → Nat) (s u : Site) : cnt u ≤ bumpSite cnt s u := by
  unfold bumpSite; split
  · exact Nat.le_add_right _ _
  · exact Nat.le_refl _

theorem budget_bump (U : List Site) (B : Nat) {cnt : Site → Nat} {s : Site} (hs : s ∈ U) (hB : cnt s ≤ B) :
    budget U B (bumpSite cnt s) + 1 ≤ budget U B cnt := by
  refine sumOver_drop hs (fun v => Nat.sub_le_sub_left (le_bumpSite cnt s v) (B + 1)) ?_
  simp only [bumpSite, if_true]
  omega

theorem request_spec {φ : Type} (U : List Site) (B : Nat) (f : Frame φ) (stmt : Int) (ks : List Int)
    (G : Glob) (todo : List Int) :
    (∀ u, G.cnt u ≤ (request U B f stmt ks G todo).1.cnt u) ∧
    budget U B (request U B f stmt ks G todo).1.cnt + (request U B f stmt ks G todo).2.length
      ≤ budget U B G.cnt + todo.length ∧
    ∀ k ∈ (request U B f stmt ks G todo).2,
      k ∈ todo ∨ (f.method, stmt, k) ∈ U ∧ countCycles (f.path ++ [(f.method, stmt, k)]) ≤ 1 := by
  fun_induction request U B f stmt ks G todo with
  | case1 G todo => exact ⟨fun _ => Nat.le_refl _, Nat.le_refl _, fun _ => Or.inl⟩
  | case2 k ks G todo site calleePath hc ih => exact ih
  | case3 k ks G todo site calleePath hc ih =>
    simp only [Bool.or_eq_true, decide_eq_true_eq, Bool.not_eq_true', not_or, Bool.not_eq_true,
      Bool.not_eq_false] at hc
    obtain ⟨ih1, ih2, ih3⟩ := ih
    have hU := List.contains_iff_mem.1 hc.2
    have := budget_bump U B hU (Nat.le_of_not_lt hc.1.2)
    refine ⟨fun u => Nat.le_trans (le_bumpSite G.cnt _ u) (ih1 u), ?_, fun k' hk' => ?_⟩
    · simp only [List.length_append, List.length_cons, List.length_nil] at ih2
      omega
    · refine (ih3 k' hk').elim (fun h => (List.mem_append.1 h).imp_right fun h => ?_) Or.inr
      cases List.mem_singleton.1 h
      exact ⟨hU, Nat.le_of_not_lt hc.1.1.1.2⟩

theorem settle_mono {φ : Type} (f : Frame φ) (stmt : Int) (ks : List Int) (G : Glob) (u : Site) :
    G.cnt u ≤ (settle f stmt ks G).cnt u := by
  fun_induction settle f stmt ks G with
  | case1 G => exact Nat.le_refl _
  | case2 k ks G site G1 G2 ih =>
    refine Nat.le_trans ?_ ih
    simp only [G2]
    split <;> exact le_bumpSite G.cnt _ u

/-- the statement analysis reduced to what the driver sees: a list of raw requests
`(call_stmt_id, callee_method_ids)` issued, in order, during one invocation of `analyze_stmts`.
The first request with a surviving callee interrupts; the rest of the list is not consumed. -/
def processReqs {φ : Type} (U : List Site) (B : Nat) (f : Frame φ) :
    List (Int × List Int) → Glob → Nat → RunOut φ
  | [], G, n => { glob := G, loc := f.loc, intr := none, cost := n }
  | (s, ks) :: rest, G, n =>
    let r := request U B f s ks G []
    if r.2.isEmpty then processReqs U B f rest (settle f s ks r.1) (n + 1)
    else { glob := r.1, loc := f.loc, intr := some (s, r.2), cost := n + 1 }

theorem processReqs_spec {φ : Type} (U : List Site) (B : Nat) (f : Frame φ)
    (reqs : List (Int × List Int)) (G : Glob) (n : Nat) :
    (∀ u, G.cnt u ≤ (processReqs U B f reqs G n).glob.cnt u) ∧
    (∀ s ks, (processReqs U B f reqs G n).intr = some (s, ks) →
      budget U B (processReqs U B f reqs G n).glob.cnt + ks.length ≤ budget U B G.cnt) := by
  fun_induction processReqs U B f reqs G n with
  | case1 G n => exact ⟨fun _ => Nat.le_refl _, nofun⟩
  | case2 s ks rest G n r he ih =>
    have hmono : ∀ u, G.cnt u ≤ (settle f s ks r.1).cnt u :=
      fun u => Nat.le_trans ((request_spec U B f s ks G []).1 u) (settle_mono f s ks _ u)
    exact ⟨fun u => Nat.le_trans (hmono u) (ih.1 u),
      fun s' ks' h => Nat.le_trans (ih.2 s' ks' h) (budget_anti U B hmono)⟩
  | case3 s ks rest G n r he =>
    obtain ⟨hm, hp, _⟩ := request_spec U B f s ks G []
    exact ⟨hm, fun s' ks' h => by cases h; exact hp⟩

/-- the runner driven by an arbitrary oracle (which may look at everything) -/
def scriptRunner (U : List Site) (B : Nat) (oracle : Glob → Frame Unit → Nat → List (Int × List Int)) :
    Runner U B Unit where
  run G f t := processReqs U B f (oracle G f t) G 0
  mono G f t u := (processReqs_spec U B f (oracle G f t) G 0).1 u
  pay G f t s ks h := (processReqs_spec U B f (oracle G f t) G 0).2 s ks h

/-! ### The driver loop -/

inductive DEv where
  | initFail (method : Int)                         -- `init_compute_frame` returned None: popped
  | init (method : Int) (path : List Site)          -- frame initialised; its call path
  | push (site : Site)                              -- a pending callee frame is created and pushed
  | intr (method stmt : Int) (callees : List Int) (cost : Nat)
  | done (method : Int) (cost : Nat)                -- summary saved, frame popped
deriving Repr

def weight {φ : Type} (f : Frame φ) : Nat := 1 + 3 * pendingCount f.caa + (if f.inited then 0 else 1)

def stackWeight {φ : Type} (st : List (Frame φ)) : Nat := sumOver weight st

def drank {φ : Type} (U : List Site) (B : Nat) (st : List (Frame φ)) (G : Glob) : Nat :=
  4 * budget U B G.cnt + stackWeight st

theorem takePending_count : ∀ (caa : List (Site × Bool)) (k : Site) (caa' : List (Site × Bool)),
    takePending caa = some (k, caa') → pendingCount caa' + 1 = pendingCount caa := by
  intro caa
  fun_induction takePending caa with
  | case1 | case3 => exact fun _ _ h => nomatch h
  | case2 s rest k2 rest' hr ih => intro k caa' h; cases h; exact ih k2 rest' hr
  | case4 s b rest hb => intro k caa' h; cases h; cases Bool.of_not_eq_true hb; rfl

theorem mkCaa_count (caller stmt : Int) (ks : List Int) (acc : List (Site × Bool)) :
    pendingCount (mkCaa caller stmt ks acc) ≤ pendingCount acc + ks.length := by
  fun_induction mkCaa caller stmt ks acc with
  | case1 acc => exact Nat.le_refl _
  | case2 k ks acc h ih => exact Nat.le_succ_of_le ih
  | case3 k ks acc h ih =>
    simp only [pendingCount, List.filter_append, List.filter_cons, List.filter_nil, Bool.not_false,
      if_true, List.length_append, List.length_cons, List.length_nil] at ih ⊢
    omega

/-- `if len(frame_stack) > 2: frame.call_path = last_frame.call_path.add_call(last_frame.method_id,
frame.call_stmt_id, frame.method_id)` (else the path stays empty) -/
def initPath {φ : Type} (rest : List (Frame φ)) (callStmt method : Int) : List Site :=
  match rest with
  | [] => []
  | last :: _ => last.path ++ [(last.method, callStmt, method)]

/-- `… self.path_manager.add_path(frame.call_path)` under the same condition -/
def initGlob {φ : Type} (rest : List (Frame φ)) (G : Glob) (path : List Site) : Glob :=
  match rest with
  | [] => G
  | _ :: _ => G.addPath path

theorem initGlob_cnt {φ : Type} (rest : List (Frame φ)) (G : Glob) (path : List Site) :
    (initGlob rest G path).cnt = G.cnt := by
  cases rest <;> rfl

set_option linter.unusedVariables false in
/--
`analyze_frame_stack` for one entry point (the `MetaComputeFrame` at the bottom of the real stack
is left out: "`len(frame_stack) >= 2`" is "`stack ≠ []`", "`len(frame_stack) > 2`" is "a caller
frame exists").  The top of the stack is the head of the list.

* `hasBody G f tick` — `init_compute_frame` succeeds for frame `f` (finds a state space and a non-empty
  CFG; a parameterless method whose body is only a docstring or `...` has none).  It is an ORACLE: it
  may depend on the global state, the frame and the time, so "the callee cannot be initialised" is one
  of the behaviours every theorem about `driver` quantifies over; a frame that fails is popped at
  once and — because the caller marked the call site as handled when it SCHEDULED the frame, not when
  the frame completed — is never scheduled again for the same interruption;
* `mkLoc m`   — the initial local (statement-loop) state of a frame of `m`.
Returns the event trace (its length is the number of driver steps) and the final global state.
-/
def driver {φ : Type} {U : List Site} {B : Nat} (R : Runner U B φ) (hasBody : Glob → Frame φ → Nat → Bool)
    (mkLoc : Int → φ) (stack : List (Frame φ)) (G : Glob) (tick : Nat) : List DEv × Glob :=
  match hst : stack with
  | [] => ([], G)
  | f :: rest =>
    if hi : f.inited = false then
      if hasBody G f tick = false then
        let r := driver R hasBody mkLoc rest G tick
        (DEv.initFail f.method :: r.1, r.2)
      else
        let path := initPath rest f.callStmt f.method
        let G1 := initGlob rest G path
        let r := driver R hasBody mkLoc ({ f with inited := true, path := path } :: rest) G1 tick
        (DEv.init f.method path :: r.1, r.2)
    else
      match hp : takePending f.caa with
      | some (key, caa') =>
        -- a child not yet analysed: mark it, create its frame, push
        let child : Frame φ :=
          { method := key.2.2, callStmt := key.2.1, path := [], caa := [], inited := false,
            loc := mkLoc key.2.2 }
        let r := driver R hasBody mkLoc (child :: { f with caa := caa' } :: rest) G tick
        (DEv.push key :: r.1, r.2)
      | none =>
        let out := R.run G f tick
        match ho : out.intr with
        | some (s, k :: ks) =>
          let caa := mkCaa f.method s (k :: ks) []
          let r := driver R hasBody mkLoc ({ f with caa := caa, loc := out.loc } :: rest) out.glob (tick + 1)
          (DEv.intr f.method s (k :: ks) out.cost :: r.1, r.2)
        | _ =>
          let r := driver R hasBody mkLoc rest out.glob (tick + 1)
          (DEv.done f.method out.cost :: r.1, r.2)
termination_by drank U B stack G
decreasing_by
  · -- initFail: pop
    simp only [drank, stackWeight, sumOver, weight]; omega
  · -- init
    simp only [drank, stackWeight, sumOver, weight, initGlob_cnt, hi]
    simp
  · -- push a pending child
    have := takePending_count f.caa key caa' hp
    have hi' : f.inited = true := by cases h : f.inited <;> simp_all
    simp only [drank, stackWeight, sumOver, weight, pendingCount, List.filter_nil, List.length_nil, hi']
    simp only [pendingCount] at this
    simp
    omega
  · -- interruption with at least one callee
    have hpay := R.pay G f tick s (k :: ks) ho
    have hc := mkCaa_count f.method s (k :: ks) []
    have hi' : f.inited = true := by cases h : f.inited <;> simp_all
    have hpend : pendingCount f.caa = 0 ∨ True := Or.inr trivial
    simp only [drank, stackWeight, sumOver, weight, hi']
    simp only [pendingCount, List.filter_nil, List.length_nil, List.length_cons] at hc hpay ⊢
    simp
    omega
  · -- done: pop
    have hm := budget_anti U B (R.mono G f tick)
    simp only [drank, stackWeight, sumOver, weight]
    omega

/-- the entry frame created by `init_frame_stack` -/
def entryFrame {φ : Type} (mkLoc : Int → φ) (entry : Int) : Frame φ :=
  { method := entry, callStmt := -1, path := [], caa := [], inited := false, loc := mkLoc entry }

def driverSteps {φ : Type} {U : List Site} {B : Nat} (R : Runner U B φ) (hasBody : Glob → Frame φ → Nat → Bool)
    (mkLoc : Int → φ) (entry : Int) (G : Glob) : Nat :=
  (driver R hasBody mkLoc [entryFrame mkLoc entry] G 0).1.length

/-- frames created for the entry point: the entry frame plus one per `push` event -/
def framesCreated (evs : List DEv) : Nat :=
  1 + (evs.filter (fun e => match e with | .push _ => true | _ => false)).length

def interruptions (evs : List DEv) : Nat :=
  (evs.filter (fun e => match e with | .intr .. => true | _ => false)).length

def innerCost : List DEv → Nat
  | [] => 0
  | .intr _ _ _ c :: r => c + innerCost r
  | .done _ c :: r => c + innerCost r
  | _ :: r => innerCost r

def maxPathLen : List DEv → Nat
  | [] => 0
  | .init _ p :: r => max p.length (maxPathLen r)
  | _ :: r => maxPathLen r

end LianVerif.Termination
