/-
C13 — abstract termination models, part 4: worklist closure guarded by a visited set.

Shape shared by `P1BasicSemanticAnalysis.search_impacted_parent_nodes`
(src/lian/basics/basic_analysis.py: which methods reach a dynamic/erroneous callee in the basic call
graph — the loop that has to survive recursive and mutually recursive call graphs),
`ImportHierarchy.search_public_symbols_from_scope_hierarchy` and
`TaintAnalysis.get_state_with_inclusion_tag`:

    while worklist: x = worklist.pop(); if x in visited: continue
                    visited.add(x); for y in next(x): if y not in visited: worklist.add(y)

NOT of this shape, and therefore not covered by the theorem about this model: the inner loop of
`ScopeHierarchy.summarize_symbol_decls`, whose `visited_set` only holds the scopes whose own outer
iteration is complete; it terminates because scope nesting is acyclic (see `scopeClosure` below for
a faithful executable copy made total by an explicit "ids strictly decrease" guard).

Written without fuel.  No imports outside LianVerif.Model.
-/
import LianVerif.Model.Termination

namespace LianVerif.Termination

/-- unmarked out-degree mass + worklist size -/
def crank {ω : Type} (D : Discipline ω) (next : Int → List Int) (N : List Int) (w : ω)
    (visited : List Int) : Nat :=
  sumOver (fun v => if visited.contains v then 0 else (next v).length) N + D.size w

structure COut where
  pops : List Int          -- the popped nodes in order (its length is the step count)
  visited : List Int       -- marked nodes, most recent first

/-- `util.graph_predecessors(graph, x)`: `[]` for a node that is not in the graph -/
def nbrs (next : Int → List Int) (N : List Int) (x : Int) : List Int :=
  cond (N.contains x) (next x) []

/-- what is pushed after marking `x`: the neighbours not yet marked -/
def fresh (next : Int → List Int) (N : List Int) (visited : List Int) (x : Int) : List Int :=
  (nbrs next N x).filter (fun y => !(x :: visited).contains y)

theorem unmarked_le (next : Int → List Int) (x : Int) (visited : List Int) (v : Int) :
    (if (x :: visited).contains v then 0 else (next v).length)
      ≤ (if visited.contains v then 0 else (next v).length) := by
  simp only [List.contains_cons]
  cases visited.contains v <;> cases (v == x) <;> simp

theorem crank_mark {ω : Type} (D : Discipline ω) (next : Int → List Int) (N : List Int) (w : ω)
    (visited : List Int) (x : Int) (h0 : D.size w ≠ 0) (hv : visited.contains x = false) :
    crank D next N ((fresh next N visited x).foldl D.push (D.pop w)) (x :: visited)
      < crank D next N w visited := by
  have hpop := D.pop_lt w h0
  have hpush := D.foldl_push_le (fresh next N visited x) (D.pop w)
  have hfl : (fresh next N visited x).length ≤ (nbrs next N x).length := List.length_filter_le _ _
  have hdrop : sumOver (fun v => if (x :: visited).contains v then 0 else (next v).length) N
        + (nbrs next N x).length
      ≤ sumOver (fun v => if visited.contains v then 0 else (next v).length) N := by
    unfold nbrs
    cases hN : N.contains x with
    | false => exact sumOver_le N (unmarked_le next x visited)
    | true =>
      refine sumOver_drop (List.contains_iff_mem.1 hN) (unmarked_le next x visited) ?_
      simp only [List.contains_cons, BEq.rfl, Bool.true_or, hv]
      exact Nat.le_of_eq (Nat.zero_add _)
  unfold crank
  omega

set_option linter.unusedVariables false in
/-- `N` — the nodes of the graph (`next x` is only consulted for `x ∈ N`). -/
def closureLoop {ω : Type} (D : Discipline ω) (next : Int → List Int) (N : List Int) (w : ω)
    (visited : List Int) : COut :=
  if h0 : D.size w = 0 then { pops := [], visited := visited }
  else
    let x := D.peek w                                      -- `x = worklist.pop()`
    if hv : visited.contains x = true then                 -- `if x in visited: continue`
      let r := closureLoop D next N (D.pop w) visited
      { r with pops := x :: r.pops }
    else                                                   -- mark, push the unmarked neighbours
      let r := closureLoop D next N ((fresh next N visited x).foldl D.push (D.pop w)) (x :: visited)
      { r with pops := x :: r.pops }
termination_by crank D next N w visited
decreasing_by
  · unfold crank; have := D.pop_lt w h0; omega
  · exact crank_mark D next N w visited _ h0 (by simpa using hv)

def closureSteps {ω : Type} (D : Discipline ω) (next : Int → List Int) (N : List Int) (w : ω) : Nat :=
  (closureLoop D next N w []).pops.length

/-- plain Python list used as a queue: `append` without de-duplication, `pop(0)`. -/
def bagDiscipline : Discipline (List Int) where
  size w := w.length
  peek w := w.headD 0
  push w x := w ++ [x]
  pop w := w.drop 1
  push_le w x := by simp
  push_ge w x := by simp
  pop_lt w h := by simp only [List.length_drop]; omega

/-- a stack: push in front, pop from the front.  With `next` = the successors in REVERSE order,
`closureLoop lifoDiscipline` marks the nodes in exactly the pre-order of the recursive visited-set DFS
of `PathFinder.reconstruct_define_use_path` (mark on entry, recurse into the successors in order),
minus its early exit at the sink; the early exit only shortens the run, so `C13_closure_bound`
bounds the real search: at most `1 + |E|` stack pops, every node expanded at most once. -/
def lifoDiscipline : Discipline (List Int) where
  size w := w.length
  peek w := w.headD 0
  push w x := x :: w
  pop w := w.drop 1
  push_le w x := by simp
  push_ge w x := by simp
  pop_lt w h := by simp only [List.length_drop]; omega

/-! ### `summarize_symbol_decls`: a faithful copy of its closure loops

`avail` is `scope_id_to_available_scope_ids` as an insertion-ordered association list (key =
`stmt_id` of a scope-opening statement, value = the scope ids available from it; initially the
single enclosing scope).  Set iteration order is taken to be the list order.

The real inner loop has NO guard that makes it terminate on a cyclic table.  To stay fuel-free the
copy only pushes ids strictly smaller than the popped one (`y < x`): on every table in which a
scope's id is larger than the ids of the scopes that enclose it — true for tables produced by the
GIR flattener, and asserted by the harness on every real table before it trusts the comparison —
the guard never fires and the copy performs exactly the pops of the code. -/

def availGet (avail : List (Int × List Int)) (k : Int) : Option (List Int) :=
  (avail.find? (fun p => p.1 == k)).map (·.2)

def unionInto (a b : List Int) : List Int := b.foldl (fun acc y => if acc.contains y then acc else acc ++ [y]) a

def availSet (avail : List (Int × List Int)) (k : Int) (v : List Int) : List (Int × List Int) :=
  avail.map (fun p => if p.1 == k then (k, v) else p)

/-- ranking function of the inner loop: `Σ_{x ∈ wl} 2^x` over the non-negative part of the ids. -/
def pow2Sum (w : List Int) : Nat := sumOver (fun x => 2 ^ x.toNat) w

theorem pow2Sum_cons (y : Int) (ys : List Int) : pow2Sum (y :: ys) = 2 ^ y.toNat + pow2Sum ys := rfl

theorem pow2Sum_foldl_push (ys : List Int) :
    ∀ w : List Int, pow2Sum (ys.foldl fifoDiscipline.push w) ≤ pow2Sum w + pow2Sum ys := by
  induction ys with
  | nil => exact fun w => Nat.le_refl _
  | cons y ys ih =>
    intro w
    have h1 := ih (fifoDiscipline.push w y)
    have h2 : pow2Sum (fifoDiscipline.push w y) ≤ pow2Sum w + 2 ^ y.toNat := by
      simp only [fifoDiscipline]
      split
      · exact Nat.le_add_right _ _
      · exact Nat.le_of_eq (sumOver_append _ w [y])
    simp only [List.foldl_cons, pow2Sum_cons]
    generalize 2 ^ y.toNat = e at h2 ⊢
    omega

theorem pow2Sum_lt (x : Nat) : ∀ (ys : List Int), ys.Nodup → (∀ y ∈ ys, 0 ≤ y ∧ y.toNat < x) →
    pow2Sum ys < 2 ^ x := by
  induction x with
  | zero =>
    intro ys _ h
    cases ys with
    | nil => exact Nat.one_pos
    | cons y ys => exact absurd (h y List.mem_cons_self).2 (Nat.not_lt_zero _)
  | succ n ih =>
    intro ys hnd h
    -- the id `n` occurs at most once; the rest lies below `n`
    have hrest : pow2Sum (ys.erase n) < 2 ^ n := ih _ (hnd.erase _) fun y hy => by
      obtain ⟨hne, hy⟩ := hnd.mem_erase_iff.1 hy
      obtain ⟨h0, hlt⟩ := h y hy
      exact ⟨h0, Nat.lt_of_le_of_ne (Nat.le_of_lt_succ hlt) fun e => hne (e ▸ (Int.toNat_of_nonneg h0).symm)⟩
    rw [Nat.pow_succ, Nat.mul_two]
    by_cases hn : (n : Int) ∈ ys
    · rw [pow2Sum, sumOver_erase _ hn, Int.toNat_natCast]
      exact Nat.add_lt_add_left hrest _
    · rw [List.erase_of_not_mem hn] at hrest
      exact Nat.lt_add_right _ hrest

def dedupInt : List Int → List Int
  | [] => []
  | y :: ys => if ys.contains y then dedupInt ys else y :: dedupInt ys

theorem dedupInt_mem {y : Int} {ys : List Int} : y ∈ dedupInt ys → y ∈ ys := by
  fun_induction dedupInt ys with
  | case1 => exact id
  | case2 z ys hc ih => exact fun h => List.mem_cons_of_mem _ (ih h)
  | case3 z ys hc ih =>
    exact fun h => (List.mem_cons.1 h).elim (· ▸ List.mem_cons_self) fun h => List.mem_cons_of_mem _ (ih h)

theorem dedupInt_nodup (ys : List Int) : (dedupInt ys).Nodup := by
  fun_induction dedupInt ys with
  | case1 => exact List.nodup_nil
  | case2 z ys hc ih => exact ih
  | case3 z ys hc ih =>
    exact List.nodup_cons.2 ⟨fun hm => hc (List.contains_iff_mem.2 (dedupInt_mem hm)), ih⟩

set_option linter.unusedVariables false in
/-- inner loop for one `scope_id`: `w` is the worklist, `mine` is `avail[scope_id]`; returns the
popped ids in order and the final `avail[scope_id]`.  `avail` is the table as it was when the
outer iteration started, except that the entry of `scope_id` itself is read from `mine` (the code
updates it in place while iterating). -/
def scopeInner (avail : List (Int × List Int)) (self : Int) (visited : List Int) (w : List Int)
    (mine : List Int) : List Int × List Int :=
  match hw : w with
  | [] => ([], mine)
  | x :: w1 =>
    if hx : x ≤ 0 then                                        -- `if tmp_id <= 0: continue`
      let r := scopeInner avail self visited w1 mine
      (x :: r.1, r.2)
    else
      match cond (x == self) (some mine) (availGet avail x) with
      | none =>                                               -- `if tmp_id in …` fails
        let r := scopeInner avail self visited w1 mine
        (x :: r.1, r.2)
      | some ax =>
        let mine' := unionInto mine ax                        -- `avail[scope_id] |= avail[tmp_id]`
        let ax' := cond (x == self) mine' ax
        let pushes := dedupInt (ax'.filter (fun y => !visited.contains y && decide (0 ≤ y) && decide (y < x)))
        let w2 := pushes.foldl fifoDiscipline.push w1
        let r := scopeInner avail self visited w2 mine'
        (x :: r.1, r.2)
termination_by pow2Sum w
decreasing_by
  · simp only [pow2Sum, sumOver]
    have : 0 < 2 ^ x.toNat := Nat.two_pow_pos _
    omega
  · simp only [pow2Sum, sumOver]
    have : 0 < 2 ^ x.toNat := Nat.two_pow_pos _
    omega
  · have h1 := pow2Sum_foldl_push
      (dedupInt ((cond (x == self) (unionInto mine ax) ax).filter
        (fun y => !visited.contains y && decide (0 ≤ y) && decide (y < x)))) w1
    have h2 := pow2Sum_lt x.toNat
      (dedupInt ((cond (x == self) (unionInto mine ax) ax).filter
        (fun y => !visited.contains y && decide (0 ≤ y) && decide (y < x))))
      (dedupInt_nodup _) (by
        intro y hy
        have := (List.mem_filter.1 (dedupInt_mem hy)).2
        simp only [Bool.and_eq_true, decide_eq_true_eq] at this
        omega)
    rw [pow2Sum_cons]
    generalize 2 ^ x.toNat = e at h2 ⊢
    omega

/-- the outer loop `for scope_id in scope_id_to_available_scope_ids` (keys in insertion order) -/
def scopeOuter : List Int → List (Int × List Int) → List Int → List (List Int) →
    List (List Int) × List (Int × List Int)
  | [], avail, _, acc => (acc.reverse, avail)
  | k :: keys, avail, visited, acc =>
    let mine := (availGet avail k).getD []
    let w0 := mine.foldl fifoDiscipline.push []               -- `SimpleWorkList().add(avail[scope_id])`
    let r := scopeInner avail k visited w0 mine
    scopeOuter keys (availSet avail k r.2) (k :: visited) (r.1 :: acc)

/-- whole closure: per key the list of popped ids; and the final table -/
def scopeClosure (avail : List (Int × List Int)) : List (List Int) × List (Int × List Int) :=
  scopeOuter (avail.map (·.1)) avail [] []

/-- every available id is non-negative and smaller than the key it is available from: the
condition under which the `y < x` guard of `scopeInner` never fires. -/
def scopeTableOk (avail : List (Int × List Int)) : Bool :=
  avail.all (fun p => p.2.all (fun y => decide (0 ≤ y) && decide (y < p.1)))

end LianVerif.Termination
