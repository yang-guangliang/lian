/-
C13 — abstract termination models, part 6: the frame-stack driver of the bottom-up phase.

Mirrors `P2PrelimSemanticAnalysis.analyze_method` (src/lian/core/prelim_semantics.py) and the callee
test of `StmtStates.compute_target_method_states` (src/lian/core/stmt_states.py):

* a callee requested by a statement is descended into iff it is neither in `analyzed_method_list`
  nor the method of a frame on the stack (`frame_stack.has_method_id`);
* on an interruption every callee to be analysed gets a frame, pushed in order (`callee_method_ids`
  is a Python `set` at both call sites, so a request never names a callee twice; the model keeps the
  first occurrence of each id);
* a frame whose `init_compute_frame` fails is popped AND its method is added to
  `analyzed_method_list` — that is what keeps a caller from asking for it again: were the mark
  missing, the caller's next invocation would interrupt on the same call statement for ever;
* a frame that runs to the end is popped and its method marked analysed.

Everything else is an oracle: `oracle` gives, per invocation of `analyze_stmts`, the raw requests
`(call statement, callee ids)` it issues in order (it may look at the analysed set, the stack and the
time); `hasBody` says whether initialisation succeeds (it may look at the same).  The only addition
of the model is the finite universe `M` of method ids: a requested callee outside `M` is ignored.

Written without fuel; ranking function: `4·(methods of M neither analysed nor on the stack) +
Σ frame weights`.  No imports outside LianVerif.Model.
-/
import LianVerif.Model.Termination
import LianVerif.Model.TerminationTaint

namespace LianVerif.Termination

structure PFrame where
  method : Int
  inited : Bool
deriving Repr

inductive PEv where
  | initFail (method : Int)
  | init (method : Int)
  | push (method : Int)
  | intr (method stmt : Int) (callees : List Int)
  | done (method : Int)
deriving Repr, DecidableEq

def onStack (st : List PFrame) (k : Int) : Bool := st.any (fun f => f.method == k)

/-- methods of `M` that are neither analysed nor on the stack -/
def pFree (M : List Int) (analyzed : List Int) (st : List PFrame) : Nat :=
  sumOver (fun m => ind (!(analyzed.contains m || onStack st m))) M

def pWeight (st : List PFrame) : Nat := sumOver (fun f => 1 + (if f.inited then 0 else 1)) st

/-- first occurrences only (the request is a set) -/
def keepFirst : List Int → List Int → List Int
  | _, [] => []
  | seen, k :: ks => if seen.contains k then keepFirst seen ks else k :: keepFirst (k :: seen) ks

theorem keepFirst_spec (ks seen : List Int) :
    (keepFirst seen ks).Nodup ∧ ∀ k ∈ keepFirst seen ks, k ∉ seen ∧ k ∈ ks := by
  fun_induction keepFirst seen ks with
  | case1 seen => exact ⟨List.nodup_nil, nofun⟩
  | case2 seen k ks hc ih => exact ih.imp_right fun h x hx => (h x hx).imp_right (List.mem_cons_of_mem _)
  | case3 seen k ks hc ih =>
    obtain ⟨h1, h2⟩ := ih
    refine ⟨List.nodup_cons.2 ⟨fun hk => (h2 k hk).1 List.mem_cons_self, h1⟩, fun x hx => ?_⟩
    rcases List.mem_cons.1 hx with rfl | hx
    · exact ⟨fun h => hc (List.contains_iff_mem.2 h), List.mem_cons_self⟩
    · exact ⟨fun h => (h2 x hx).1 (List.mem_cons_of_mem _ h), List.mem_cons_of_mem _ (h2 x hx).2⟩

/-- `callee_ids_to_be_analyzed` of one request -/
def pFilter (M : List Int) (analyzed : List Int) (st : List PFrame) (ks : List Int) : List Int :=
  keepFirst [] (ks.filter (fun k => !(analyzed.contains k || onStack st k) && M.contains k))

/-- the first request of the invocation with a callee to be analysed -/
def pFirst (M : List Int) (analyzed : List Int) (st : List PFrame) :
    List (Int × List Int) → Option (Int × List Int)
  | [] => none
  | (s, ks) :: rest =>
    match pFilter M analyzed st ks with
    | [] => pFirst M analyzed st rest
    | k :: ks' => some (s, k :: ks')

/-- `for callee_id in data.callee_ids: frame_stack.add(ComputeFrame(callee_id))` -/
def pPush (st : List PFrame) : List Int → List PFrame
  | [] => st
  | k :: ks => pPush ({ method := k, inited := false } :: st) ks

theorem lex_of_le_lt {a a' b b' : Nat} (h1 : a' ≤ a) (h2 : b' < b) :
    Prod.Lex (· < ·) (· < ·) (a', b') (a, b) := by
  rcases Nat.lt_or_eq_of_le h1 with h | h
  · exact Prod.Lex.left _ _ h
  · subst h; exact Prod.Lex.right _ h2

theorem pFilter_spec (M analyzed : List Int) (st : List PFrame) (ks : List Int) :
    (pFilter M analyzed st ks).Nodup ∧ ∀ k ∈ pFilter M analyzed st ks,
      k ∈ M ∧ analyzed.contains k = false ∧ onStack st k = false := by
  obtain ⟨h1, h2⟩ := keepFirst_spec (ks.filter (fun k => !(analyzed.contains k || onStack st k) && M.contains k)) []
  refine ⟨h1, ?_⟩
  intro k hk
  have := (List.mem_filter.1 (h2 k hk).2).2
  simp only [Bool.and_eq_true, Bool.not_eq_true', Bool.or_eq_false_iff] at this
  exact ⟨List.contains_iff_mem.1 this.2, this.1.1, this.1.2⟩

theorem pFirst_some {M analyzed : List Int} {st : List PFrame} {reqs : List (Int × List Int)} {s : Int}
    {ks : List Int} : pFirst M analyzed st reqs = some (s, ks) →
      ks ≠ [] ∧ ks.Nodup ∧ ∀ k ∈ ks, k ∈ M ∧ analyzed.contains k = false ∧ onStack st k = false := by
  fun_induction pFirst M analyzed st reqs with
  | case1 => nofun
  | case2 s0 ks0 rest hf ih => exact ih
  | case3 s0 ks0 rest k1 ks1 hf =>
    intro h
    cases h
    exact ⟨List.cons_ne_nil _ _, hf ▸ pFilter_spec M analyzed st ks0⟩

theorem onStack_pPush (st : List PFrame) (ks : List Int) (m : Int) :
    onStack (pPush st ks) m = (onStack st m || ks.contains m) := by
  induction ks generalizing st with
  | nil => exact (Bool.or_false _).symm
  | cons k ks ih =>
    rw [pPush, ih]
    simp only [onStack, List.any_cons, List.contains_cons]
    rw [BEq.comm (a := k)]
    cases (m == k) <;> cases (st.any fun f => f.method == m) <;> cases ks.contains m <;> rfl

theorem pFree_push_le (M analyzed : List Int) (st : List PFrame) (ks : List Int) :
    pFree M analyzed (pPush st ks) ≤ pFree M analyzed st := by
  refine sumOver_le _ fun m => ?_
  rw [onStack_pPush]
  cases analyzed.contains m <;> cases onStack st m <;> cases ks.contains m <;> decide

theorem pFree_push_one (M analyzed : List Int) (st : List PFrame) (k : Int)
    (hk : k ∈ M) (ha : analyzed.contains k = false) (hs : onStack st k = false) :
    pFree M analyzed ({ method := k, inited := false } :: st) + 1 ≤ pFree M analyzed st := by
  refine sumOver_drop hk (fun m => ?_) ?_
  · simp only [onStack, List.any_cons]
    cases analyzed.contains m <;> cases (k == m) <;> cases (st.any fun f => f.method == m) <;> decide
  · simp only [onStack] at hs
    simp only [onStack, List.any_cons, beq_self_eq_true, Bool.true_or, Bool.or_true, ha, hs]
    decide

theorem pFree_push_all (M analyzed : List Int) (ks : List Int) (st : List PFrame) (hnd : ks.Nodup)
    (h : ∀ k ∈ ks, k ∈ M ∧ analyzed.contains k = false ∧ onStack st k = false) :
    pFree M analyzed (pPush st ks) + ks.length ≤ pFree M analyzed st := by
  fun_induction pPush st ks with
  | case1 st => exact Nat.le_refl _
  | case2 st k ks ih =>
    obtain ⟨hk, ha, hs⟩ := h k List.mem_cons_self
    have h1 := pFree_push_one M analyzed st k hk ha hs
    obtain ⟨hfresh, hnd'⟩ := List.nodup_cons.1 hnd
    have h2 := ih hnd' fun k' hk' => by
      obtain ⟨a, b, c⟩ := h k' (List.mem_cons_of_mem _ hk')
      have hne : (k == k') = false := beq_false_of_ne fun e => hfresh (e ▸ hk')
      exact ⟨a, b, by simp only [onStack, List.any_cons, hne, Bool.false_or] at c ⊢; exact c⟩
    simp only [List.length_cons]
    omega

theorem pFree_pop_le (M analyzed : List Int) (f : PFrame) (rest : List PFrame) :
    pFree M (f.method :: analyzed) rest ≤ pFree M analyzed (f :: rest) := by
  refine sumOver_le _ fun m => ?_
  simp only [List.contains_cons, onStack, List.any_cons]
  rw [BEq.comm (a := f.method)]
  cases (m == f.method) <;> cases analyzed.contains m <;> cases (rest.any fun g => g.method == m) <;> decide

theorem pWeight_pPush (st : List PFrame) (ks : List Int) :
    pWeight (pPush st ks) = pWeight st + 2 * ks.length := by
  induction ks generalizing st with
  | nil => rfl
  | cons k ks ih =>
    rw [pPush, ih]
    simp only [pWeight, sumOver, List.length_cons, Bool.false_eq_true, if_false]
    omega

set_option linter.unusedVariables false in
/--
`analyze_method(root)`: `stack` starts as `[frame(root)]`, `analyzed` as the methods analysed by the
earlier roots.  Returns the event trace and the final analysed set (most recent first).
-/
def prelimDriver (M : List Int) (hasBody : List Int → List PFrame → Nat → Bool)
    (oracle : List Int → List PFrame → Nat → List (Int × List Int))
    (stack : List PFrame) (analyzed : List Int) (tick : Nat) : List PEv × List Int :=
  match hst : stack with
  | [] => ([], analyzed)
  | f :: rest =>
    if hi : f.inited = false then
      if hasBody analyzed (f :: rest) tick = false then
        -- `self.analyzed_method_list.add(frame.method_id); frame_stack.pop(); continue`
        let r := prelimDriver M hasBody oracle rest (f.method :: analyzed) tick
        (PEv.initFail f.method :: r.1, r.2)
      else
        let r := prelimDriver M hasBody oracle ({ f with inited := true } :: rest) analyzed tick
        (PEv.init f.method :: r.1, r.2)
    else
      match hp : pFirst M analyzed (f :: rest) (oracle analyzed (f :: rest) tick) with
      | some (s, k :: ks) =>
        let r := prelimDriver M hasBody oracle (pPush (f :: rest) (k :: ks)) analyzed (tick + 1)
        (PEv.intr f.method s (k :: ks) :: ((k :: ks).map PEv.push ++ r.1), r.2)
      | _ =>
        let r := prelimDriver M hasBody oracle rest (f.method :: analyzed) (tick + 1)
        (PEv.done f.method :: r.1, r.2)
termination_by 4 * pFree M analyzed stack + pWeight stack
decreasing_by
  · have := pFree_pop_le M analyzed f rest
    simp only [pWeight, sumOver]; omega
  · have : pFree M analyzed ({ f with inited := true } :: rest) = pFree M analyzed (f :: rest) := rfl
    simp only [pWeight, sumOver, hi, this]; simp
  · obtain ⟨_, hnd, hall⟩ := pFirst_some hp
    have h1 := pFree_push_all M analyzed (k :: ks) (f :: rest) hnd hall
    have h2 := pWeight_pPush (f :: rest) (k :: ks)
    simp only [List.length_cons] at h1 h2
    omega
  · have := pFree_pop_le M analyzed f rest
    simp only [pWeight, sumOver]; omega

/-- the ranking function, for the step bound -/
def prank (M : List Int) (analyzed : List Int) (stack : List PFrame) : Nat :=
  4 * pFree M analyzed stack + pWeight stack

def pInterruptions (evs : List PEv) : Nat :=
  (evs.filter (fun e => match e with | .intr .. => true | _ => false)).length

def pFrames (evs : List PEv) : Nat :=
  1 + (evs.filter (fun e => match e with | .push _ => true | _ => false)).length

end LianVerif.Termination
