/-
C13 — abstract termination models, part 1: the statement visit loop.

Mirrors `P2PrelimSemanticAnalysis.analyze_stmts` (src/lian/core/prelim_semantics.py; shared by the
bottom-up phase P2 and, by inheritance, the top-down phase P3) together with `SimpleWorkList`
(src/lian/common_structs.py).  Only the loop skeleton is modelled: which statement is peeked, whether
it is analysed or skipped, what is pushed, what is popped, how the visit counter moves.  The cost of
ONE statement analysis (`analyze_reachable_symbols`, `compute_stmt_states`) is outside the model; it
appears as the abstract callback `analyse`, whose only observable effect on the loop is whether it
interrupts (a callee has to be analysed first).

Every loop in this file is written WITHOUT fuel: Lean's termination checker accepts the definition
only because the ranking function given in `termination_by` decreases.

The worklist is abstract (`Discipline`): any structure with `size / peek / push / pop` such that a
push adds at most one element and never removes one, and a pop of a non-empty list removes at least
one.  The real discipline (`heapDiscipline`: `heapq.heappush` on insert but `list.pop(0)` on removal,
which is not a heap pop and breaks the heap shape) is one instance; FIFO is another.

No imports: this file is linked into the `lvdrv` executable.
-/
namespace LianVerif.Termination

/-! ### Sums over a finite carrier (core-only replacements for the Mathlib lemmas) -/

/-- `Σ_{v ∈ V} f v` (with multiplicity when `V` has duplicates). -/
def sumOver {α : Type} (f : α → Nat) : List α → Nat
  | [] => 0
  | v :: V => f v + sumOver f V

theorem sumOver_le {α : Type} {f g : α → Nat} (V : List α) (h : ∀ v, f v ≤ g v) :
    sumOver f V ≤ sumOver g V := by
  induction V with
  | nil => exact Nat.le_refl _
  | cons v V ih => exact Nat.add_le_add (h v) ih

theorem sumOver_drop {α : Type} {f g : α → Nat} {V : List α} {s : α} {d : Nat}
    (hs : s ∈ V) (h : ∀ v, f v ≤ g v) (hd : f s + d ≤ g s) :
    sumOver f V + d ≤ sumOver g V := by
  induction V with
  | nil => cases hs
  | cons v V ih =>
    simp only [sumOver]
    rcases List.mem_cons.1 hs with rfl | hm
    · rw [Nat.add_right_comm]; exact Nat.add_le_add hd (sumOver_le V h)
    · rw [Nat.add_assoc]; exact Nat.add_le_add (h v) (ih hm)

theorem sumOver_append {α : Type} (f : α → Nat) (a b : List α) :
    sumOver f (a ++ b) = sumOver f a + sumOver f b := by
  induction a with
  | nil => exact (Nat.zero_add _).symm
  | cons x a ih => simp only [List.cons_append, sumOver, ih, Nat.add_assoc]

theorem sumOver_mul_left {α : Type} (c : Nat) (f : α → Nat) (l : List α) :
    sumOver (fun x => c * f x) l = c * sumOver f l := by
  induction l with
  | nil => rfl
  | cons x l ih => simp only [sumOver, ih, Nat.mul_add]

theorem sumOver_le_mul {α : Type} {f : α → Nat} {c : Nat} (l : List α) (h : ∀ x ∈ l, f x ≤ c) :
    sumOver f l ≤ l.length * c := by
  induction l with
  | nil => exact Nat.zero_le _
  | cons x l ih =>
    simp only [sumOver, List.length_cons, Nat.succ_mul, Nat.add_comm (f x)]
    exact Nat.add_le_add (ih fun y hy => h y (List.mem_cons_of_mem _ hy)) (h x List.mem_cons_self)

theorem sumOver_erase {α : Type} [BEq α] [LawfulBEq α] (f : α → Nat) {a : α} :
    ∀ {l : List α}, a ∈ l → sumOver f l = f a + sumOver f (l.erase a)
  | x :: l, h => by
    by_cases hx : x = a
    · subst hx; rw [List.erase_cons_head]; rfl
    · have := sumOver_erase f ((List.mem_cons.1 h).resolve_left (Ne.symm hx))
      rw [List.erase_cons_tail (by simpa using hx)]
      simp only [sumOver]
      rw [this, Nat.add_left_comm]

/-! ### Worklist disciplines -/

/-- What the visit loop needs from a worklist.  `peek` is only consulted when `size ≠ 0`. -/
structure Discipline (ω : Type) where
  size : ω → Nat
  peek : ω → Int
  push : ω → Int → ω
  pop : ω → ω
  push_le : ∀ w x, size (push w x) ≤ size w + 1
  push_ge : ∀ w x, size w ≤ size (push w x)
  pop_lt : ∀ w, size w ≠ 0 → size (pop w) < size w

theorem Discipline.foldl_push_le {ω : Type} (D : Discipline ω) (xs : List Int) (w : ω) :
    D.size (xs.foldl D.push w) ≤ D.size w + xs.length := by
  induction xs generalizing w with
  | nil => exact Nat.le_refl _
  | cons x xs ih =>
    have := ih (D.push w x); have := D.push_le w x
    simp only [List.foldl_cons, List.length_cons]
    omega

theorem Discipline.foldl_push_ge {ω : Type} (D : Discipline ω) (xs : List Int) (w : ω) :
    D.size w ≤ D.size (xs.foldl D.push w) := by
  induction xs generalizing w with
  | nil => exact Nat.le_refl _
  | cons x xs ih => exact Nat.le_trans (D.push_ge w x) (ih (D.push w x))

/-! #### The real discipline: `SimpleWorkList` built with `graph=cfg`

`work_list` is a Python list of `(priority, item)` tuples, `all_data` the set of items in it (the
only mutators used on a frame's statement worklist are `add` and `pop`, which keep the two in step).
`add` = `heapq.heappush` unless the item is already present; `pop` = `work_list.pop(0)`. -/

structure HeapWL where
  heap : List (Nat × Int)
  prio : List (Int × Nat)        -- `priority_dict` (reverse DFS post-order index)
deriving Repr

def lookupPrio (prio : List (Int × Nat)) (x : Int) : Nat :=
  match prio.find? (fun p => p.1 == x) with
  | some p => p.2
  | none => 0                    -- `self.priority_dict.get(item, 0)`

/-- Python tuple comparison `(p1, i1) < (p2, i2)`. -/
def tupleLt (a b : Nat × Int) : Bool := a.1 < b.1 || (a.1 == b.1 && decide (a.2 < b.2))

/-- `heapq._siftdown(heap, 0, pos)` with `newitem` carried along; `fuel ≥ pos` always suffices
because `pos` at least halves in every round. -/
def siftDown : Nat → List (Nat × Int) → Nat → Nat × Int → List (Nat × Int)
  | 0, h, pos, x => h.set pos x
  | fuel + 1, h, pos, x =>
    if pos = 0 then h.set pos x
    else
      let pp := (pos - 1) / 2
      let parent := h.getD pp (0, 0)
      if tupleLt x parent then siftDown fuel (h.set pos parent) pp x else h.set pos x

theorem siftDown_length (fuel : Nat) (h : List (Nat × Int)) (pos : Nat) (x : Nat × Int) :
    (siftDown fuel h pos x).length = h.length := by
  fun_induction siftDown fuel h pos x with
  | case1 | case2 | case4 => exact List.length_set
  | case3 fuel h pos x hp pp parent hlt ih => rw [ih]; exact List.length_set

def heapPushRaw (h : List (Nat × Int)) (x : Nat × Int) : List (Nat × Int) :=
  siftDown (h.length + 1) (h ++ [x]) h.length x

def HeapWL.push (w : HeapWL) (x : Int) : HeapWL :=
  if w.heap.any (fun p => p.2 == x) then w           -- `if item not in self.all_data`
  else { w with heap := heapPushRaw w.heap (lookupPrio w.prio x, x) }

def HeapWL.pop (w : HeapWL) : HeapWL := { w with heap := w.heap.drop 1 }   -- `work_list.pop(0)`

def HeapWL.peek (w : HeapWL) : Int :=
  match w.heap with
  | [] => 0
  | p :: _ => p.2

def heapDiscipline : Discipline HeapWL where
  size w := w.heap.length
  peek := HeapWL.peek
  push := HeapWL.push
  pop := HeapWL.pop
  push_le w x := by
    unfold HeapWL.push
    split
    · omega
    · simp [heapPushRaw, siftDown_length]
  push_ge w x := by
    unfold HeapWL.push
    split
    · omega
    · simp [heapPushRaw, siftDown_length]
  pop_lt w h := by
    simp only [HeapWL.pop, List.length_drop]
    omega

/-! #### The same list with a genuine `heapq.heappop` on removal

Not what the pinned code does; kept so that the harness can follow a repair of `SimpleWorkList.pop`
(it probes the live class and replays with whichever discipline it exhibits).  The step-bound
theorems hold for every discipline, so they are unaffected by the choice. -/

/-- the loop of `heapq._siftup`: move the smaller child up until a leaf is reached; returns the
list and the final hole position -/
def siftUpLoop : Nat → List (Nat × Int) → Nat → List (Nat × Int) × Nat
  | 0, h, pos => (h, pos)
  | fuel + 1, h, pos =>
    let child := 2 * pos + 1
    if child < h.length then
      let right := child + 1
      let c := if right < h.length && !tupleLt (h.getD child (0, 0)) (h.getD right (0, 0)) then right else child
      siftUpLoop fuel (h.set pos (h.getD c (0, 0))) c
    else (h, pos)

theorem siftUpLoop_length (fuel : Nat) (h : List (Nat × Int)) (pos : Nat) :
    (siftUpLoop fuel h pos).1.length = h.length := by
  fun_induction siftUpLoop fuel h pos with
  | case1 | case3 => rfl
  | case2 fuel h pos child hc right c ih => rw [ih]; exact List.length_set

/-- `heapq.heappop` (the popped item is the head) -/
def heapPopRaw (h : List (Nat × Int)) : List (Nat × Int) :=
  match h.getLast? with
  | none => []
  | some last =>
    let h1 := h.dropLast
    if h1.isEmpty then []
    else
      let h2 := h1.set 0 last
      let r := siftUpLoop h2.length h2 0
      siftDown (r.1.length + 1) r.1 r.2 last

theorem heapPopRaw_length (h : List (Nat × Int)) (hne : h.length ≠ 0) :
    (heapPopRaw h).length < h.length := by
  unfold heapPopRaw
  cases hl : h.getLast? with
  | none => simp; exact Nat.pos_of_ne_zero hne
  | some last =>
    simp only
    split
    · simp; exact Nat.pos_of_ne_zero hne
    · rw [siftDown_length, siftUpLoop_length]; simp; exact Nat.sub_one_lt hne

def HeapWL.popq (w : HeapWL) : HeapWL := { w with heap := heapPopRaw w.heap }

def heapqDiscipline : Discipline HeapWL where
  size w := w.heap.length
  peek := HeapWL.peek
  push := HeapWL.push
  pop := HeapWL.popq
  push_le w x := heapDiscipline.push_le w x
  push_ge w x := heapDiscipline.push_ge w x
  pop_lt w h := heapPopRaw_length w.heap h

/-! #### `SimpleWorkList()` without a graph: a plain list, append at the end unless present,
`pop(0)` — first in, first out with de-duplication against the current content. -/

def fifoDiscipline : Discipline (List Int) where
  size w := w.length
  peek w := w.headD 0
  push w x := if w.contains x then w else w ++ [x]
  pop w := w.drop 1
  push_le w x := by split <;> simp
  push_ge w x := by split <;> simp
  pop_lt w h := by simp only [List.length_drop]; omega

/-! ### The visit loop -/

inductive Ev where
  | skip (s : Int)      -- popped without analysis (id ≤ 0, not a statement of the method, or budget used up)
  | visit (s : Int)     -- analysed, popped, counter incremented
  | intr (s : Int)      -- analysis interrupted (callee first): nothing popped, counter unchanged
deriving Repr, DecidableEq

structure VOut (ω γ : Type) where
  events : List Ev
  w : ω
  cnt : Int → Nat
  g : γ
  interrupted : Bool

def bump (cnt : Int → Nat) (s : Int) : Int → Nat := fun x => if x = s then cnt x + 1 else cnt x

/-- the ranking function: pushes still payable by the visit budget + current worklist size. -/
def rank {ω : Type} (D : Discipline ω) (succ : Int → List Int) (V : List Int) (lim : Int → Nat)
    (w : ω) (cnt : Int → Nat) : Nat :=
  sumOver (fun v => (lim v - cnt v) * (succ v).length) V + D.size w

theorem le_bump (cnt : Int → Nat) (s u : Int) : cnt u ≤ bump cnt s u := by
  unfold bump; split
  · exact Nat.le_add_right _ _
  · exact Nat.le_refl _

theorem rank_visit {ω : Type} (D : Discipline ω) (succ : Int → List Int) (V : List Int)
    (lim : Int → Nat) (w : ω) (cnt : Int → Nat) (s : Int)
    (hne : D.size w ≠ 0) (hV : s ∈ V) (hlt : cnt s < lim s) :
    rank D succ V lim (D.pop ((succ s).foldl D.push w)) (bump cnt s) < rank D succ V lim w cnt := by
  have h1 := D.foldl_push_le (succ s) w
  have h2 := D.foldl_push_ge (succ s) w
  have h3 := D.pop_lt ((succ s).foldl D.push w)
    (Nat.ne_of_gt (Nat.lt_of_lt_of_le (Nat.pos_of_ne_zero hne) h2))
  have h4 : sumOver (fun v => (lim v - bump cnt s v) * (succ v).length) V + (succ s).length
      ≤ sumOver (fun v => (lim v - cnt v) * (succ v).length) V := by
    refine sumOver_drop hV (fun v => Nat.mul_le_mul_right _ (Nat.sub_le_sub_left (le_bump cnt s v) _))
      (Nat.le_of_eq ?_)
    rw [bump, if_pos rfl, ← Nat.add_one_mul, Nat.sub_add_eq, Nat.sub_add_cancel (Nat.sub_pos_of_lt hlt)]
  unfold rank
  omega

set_option linter.unusedVariables false in
/--
`analyze_stmts(frame)`.

* `succ`   — `util.graph_successors(frame.cfg, ·)` (distinct successors, in networkx order);
* `V`      — the keys of `frame.stmt_counters` (all statements of the method);
* `lim s`  — the number of analyses statement `s` is entitled to: `max_analysis_round`, or
             `loop_total_rounds[s] + 1` for the (currently never populated) loop table;
* `cnt`    — `frame.stmt_counters`;
* `analyse s g` — everything between the budget test and `stmt_worklist.pop()`; returns the new
             abstract analysis state and whether `result_flag.interruption_flag` was set.
-/
def visitLoop {ω γ : Type} (D : Discipline ω) (succ : Int → List Int) (V : List Int)
    (lim : Int → Nat) (analyse : Int → γ → γ × Bool) (w : ω) (cnt : Int → Nat) (g : γ) :
    VOut ω γ :=
  if h0 : D.size w = 0 then
    { events := [], w := w, cnt := cnt, g := g, interrupted := false }     -- `while len(worklist) != 0`
  else
    let s := D.peek w
    if hs : s ≤ 0 ∨ V.contains s = false then                                -- not a statement: pop, continue
      let r := visitLoop D succ V lim analyse (D.pop w) cnt g
      { r with events := Ev.skip s :: r.events }
    else if hl : cnt s < lim s then
      let w1 := (succ s).foldl D.push w                                      -- `worklist.add(successors)`
      match analyse s g with
      | (g1, true) =>                                                        -- interruption: return at once
        { events := [Ev.intr s], w := w1, cnt := cnt, g := g1, interrupted := true }
      | (g1, false) =>
        let r := visitLoop D succ V lim analyse (D.pop w1) (bump cnt s) g1   -- pop; counter += 1
        { r with events := Ev.visit s :: r.events }
    else                                                                     -- budget used up: pop, continue
      let r := visitLoop D succ V lim analyse (D.pop w) cnt g
      { r with events := Ev.skip s :: r.events }
termination_by rank D succ V lim w cnt
decreasing_by
  · unfold rank; have := D.pop_lt w h0; omega
  · have hV : s ∈ V := by
      have : V.contains s = true := by
        cases hc : V.contains s with
        | true => rfl
        | false => exact absurd (Or.inr hc) hs
      exact List.contains_iff_mem.1 this
    exact rank_visit D succ V lim w cnt s h0 hV hl
  · unfold rank; have := D.pop_lt w h0; omega

/-- the step count of one invocation -/
def visitSteps {ω γ : Type} (D : Discipline ω) (succ : Int → List Int) (V : List Int)
    (lim : Int → Nat) (analyse : Int → γ → γ × Bool) (w : ω) (cnt : Int → Nat) (g : γ) : Nat :=
  (visitLoop D succ V lim analyse w cnt g).events.length

/-- number of CFG edges leaving statements of the method -/
def edgeCount (succ : Int → List Int) (V : List Int) : Nat := sumOver (fun v => (succ v).length) V

end LianVerif.Termination
