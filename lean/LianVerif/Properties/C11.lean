/-
C11 — Every reported taint flow is justified by rules and by a data dependence.

Models: LianVerif/Model/Sfg.lean, TaintRules.lean, Taint.lean (`current` = the repaired code in /repo,
`pinned` and the single-flag variants = the pinned commit, frozen).
Vocabulary: LianVerif/Spec/Reach.lean (`Reach` = closure of the one-step taint relation of the SFG
on (table, id) locations; `Watch g p` = the locations `get_symbol_with_states_tag(p)` reads).

What is NOT proved here: that a run-time flow implies a path in the SFG, or that an SFG path implies
a dependence in the program (soundness / precision of the SFG construction, lian's P1–P3).  The
theorems take the SFG as given.
-/
import LianVerif.Proofs.Taint
import LianVerif.Proofs.TaintRules
import LianVerif.Spec.TaintWitness

namespace LianVerif.C11
open LianVerif.Sfg LianVerif.TaintRules LianVerif.Taint LianVerif.Reach LianVerif.TaintWitness

/-- **C11 (tags).** Whatever `propagate_taint` tags — symbol-table or state-table entry — is
reachable from the source along the one-step taint relation of the SFG. -/
theorem C11_tags_justified (g : Graph) (prm : Params) (src : Nat) :
    (∀ i ∈ (propagate g prm src).symT, Reach g prm src (true, i)) ∧
    (∀ i ∈ (propagate g prm src).stT, Reach g prm src (false, i)) :=
  ⟨fun _ hi => propagate_sound g prm src _ (taggedLoc_sym.2 hi),
    fun _ hi => propagate_sound g prm src _ (taggedLoc_st.2 hi)⟩

/-- **C11 (certified checker).** The closure the driver computes for every source of every graph of
a run (`reachSat`, compared there with the REAL tag maps) only contains reachable locations. -/
theorem C11_reach_checker_sound (g : Graph) (prm : Params) (src : Nat) :
    ∀ l ∈ reachSat g prm src, Reach g prm src l :=
  reachSat_sound g prm src

/-- how a flow into `sink` is justified: a sink rule consulted for `sink` names a position at which
a symbol is used whose watched locations (own id, states, included sub-states) are reachable from
the source — or a from-code rule makes every predecessor count. -/
def SinkJustified (vr : Variant) (g : Graph) (prm : Params) (rs : RuleSet) (src sink : Nat) : Prop :=
  (∃ r ∈ sinkMatching vr g rs sink, ∃ t ∈ targetsOf r, ∃ e ∈ g.inE sink, e.etype = E_USED ∧
      posHit (g.node sink).name t ((targetPos? t).getD (-1)) e = true ∧
      ∃ l, Watch g e.peer l ∧ Reach g prm src l) ∨
  (codeSinkHit vr rs (g.node sink) = true ∧ ∃ e ∈ g.inE sink,
      (vr.codeSinkSymOnly = true → g.kindOf e.peer = K_SYMBOL) ∧ ∃ l, Watch g e.peer l ∧ Reach g prm src l)

theorem sinkTag_justified {vr : Variant} (hr : vr.resetTargetPos = true) {g : Graph} {prm : Params}
    {rs : RuleSet} {src sink : Nat} {s : PState} (hs : Sound g prm src s)
    (h : (sinkTag vr g rs s sink).tag = true) :
    (g.node sink).kind = K_STMT ∧ SinkJustified vr g prm rs src sink := by
  obtain ⟨hk, h⟩ := (sinkTag_iff hr).1 h
  refine ⟨hk, h.imp ?_ ?_⟩
  · rintro ⟨r, hrm, t, htm, e, he, het, hp, h⟩
    obtain ⟨l, hw, htl⟩ := symWithStatesTag_sound h
    exact ⟨r, hrm, t, htm, e, he, het, hp, l, hw, hs _ htl⟩
  · rintro ⟨hc, e, he, hso, h⟩
    obtain ⟨l, hw, htl⟩ := symWithStatesTag_sound h
    exact ⟨hc, e, he, hso, l, hw, hs _ htl⟩

/-- **C11 (justification).** Every flow the analysis of an entry point reports
(1) starts at the symbol defined by a statement that matches a source rule (`srcMatch`; its decision
logic per rule kind is `C10_rule_kinds_*`), (2) ends at a statement that matches a sink rule,
(3) and is backed by an SFG path from the source to a location watched at a predecessor of the sink
that sits at the position a consulted sink rule names.
Stated for every variant that re-initialises `target_pos` per target, in particular `current`. -/
theorem C11_justified {vr : Variant} (hr : vr.resetTargetPos = true) (g : Graph) (prm : Params)
    (rs : RuleSet) (f : Flow) (hf : f ∈ analyze vr g prm rs) :
    (∃ n, n < g.size ∧ (g.node n).kind = K_STMT ∧ srcMatch vr g rs n = true ∧ defSym g n = some f.src) ∧
    (f.sink < g.size ∧ (g.node f.sink).kind = K_STMT ∧ isSink vr g rs f.sink = true) ∧
    SinkJustified vr g prm rs f.src f.sink := by
  obtain ⟨h1, h2, h3, _⟩ := mem_analyze.1 hf
  obtain ⟨hk, hj⟩ := sinkTag_justified hr (propagate_sound g prm f.src) h3
  exact ⟨mem_findSources_some.1 h1, ⟨(mem_findSinks.1 h2).1, hk, (mem_findSinks.1 h2).2⟩, hj⟩

theorem C11_justified_current (g : Graph) (prm : Params) (rs : RuleSet) (f : Flow)
    (hf : f ∈ analyze current g prm rs) :
    (∃ n, n < g.size ∧ (g.node n).kind = K_STMT ∧ srcMatch current g rs n = true ∧
      defSym g n = some f.src) ∧
    (f.sink < g.size ∧ (g.node f.sink).kind = K_STMT ∧ isSink current g rs f.sink = true) ∧
    SinkJustified current g prm rs f.src f.sink :=
  C11_justified rfl g prm rs f hf

theorem C11_no_source_no_flow (vr : Variant) (g : Graph) (prm : Params) (rs : RuleSet)
    (h1 : rs.sources = []) (h2 : rs.srcCode = []) : analyze vr g prm rs = [] :=
  analyze_nil_of_srcMatch (fun n => srcMatch_no_rules vr g rs n h1 h2)

theorem C11_no_sink_no_flow (vr : Variant) (g : Graph) (prm : Params) (rs : RuleSet)
    (h1 : rs.sinks = []) (h2 : rs.sinkCode = []) : analyze vr g prm rs = [] :=
  List.eq_nil_iff_forall_not_mem.2 fun f hf =>
    absurd (mem_findSinks.1 (mem_analyze.1 hf).2.1).2
      (by rw [isSink_no_rules vr g rs f.sink h1 h2]; exact Bool.false_ne_true)

/-- **C11 (rules of another language ⇒ no flow).** If no source rule (and no from-code source rule)
is written for the language of any unit of the graph — nor for every language — nothing is reported.
(`langOk` is constantly true when `checkLang = false`, the behaviour of the pinned commit: there the
hypotheses can only hold for empty rule lists.) -/
theorem C11_wrong_lang_no_flow (vr : Variant) (g : Graph) (prm : Params) (rs : RuleSet)
    (h1 : ∀ n, ∀ r ∈ rs.sources, langOk vr r.lang (g.node n) = false)
    (h2 : ∀ n, ∀ c ∈ rs.srcCode, langOk vr c.lang (g.node n) = false) :
    analyze vr g prm rs = [] :=
  analyze_nil_of_srcMatch (fun n => srcMatch_wrong_lang vr g rs n (h1 n) (h2 n))

/-- **C11 (unrelated data ⇒ no flow).** If nothing watched at any predecessor of the sink is
reachable from the source, the pair is not reported. -/
theorem C11_unrelated_no_flow {vr : Variant} (hr : vr.resetTargetPos = true) (g : Graph)
    (prm : Params) (rs : RuleSet) (sources sinks : List Nat) (src sink : Nat)
    (h : ∀ e ∈ g.inE sink, ∀ l, Watch g e.peer l → ¬ Reach g prm src l) :
    ∀ f ∈ findFlows vr g prm rs sources sinks, ¬ (f.src = src ∧ f.sink = sink) := by
  rintro f hf ⟨rfl, rfl⟩
  obtain ⟨_, hj⟩ := sinkTag_justified hr (propagate_sound g prm f.src) (mem_findFlows.1 hf).2.2.1
  rcases hj with ⟨r, _, t, _, e, he, _, _, l, hw, hl⟩ | ⟨_, e, he, _, l, hw, hl⟩
  · exact h e he l hw hl
  · exact h e he l hw hl

/-- **C11 (wrong argument position ⇒ no flow).** Without a from-code hit: if every symbol used at a
position named by a consulted rule is unrelated to the source, the pair is not reported — whatever
is tainted at the other positions. -/
theorem C11_wrong_position_no_flow {vr : Variant} (hr : vr.resetTargetPos = true) (g : Graph)
    (prm : Params) (rs : RuleSet) (sources sinks : List Nat) (src sink : Nat)
    (hcode : codeSinkHit vr rs (g.node sink) = false)
    (h : ∀ r ∈ sinkMatching vr g rs sink, ∀ t ∈ targetsOf r, ∀ e ∈ g.inE sink, e.etype = E_USED →
      posHit (g.node sink).name t ((targetPos? t).getD (-1)) e = true →
      ∀ l, Watch g e.peer l → ¬ Reach g prm src l) :
    ∀ f ∈ findFlows vr g prm rs sources sinks, ¬ (f.src = src ∧ f.sink = sink) := by
  rintro f hf ⟨rfl, rfl⟩
  obtain ⟨_, hj⟩ := sinkTag_justified hr (propagate_sound g prm f.src) (mem_findFlows.1 hf).2.2.1
  rcases hj with ⟨r, hrm, t, ht, e, he, het, hp, l, hw, hl⟩ | ⟨hc, _⟩
  · exact h r hrm t ht e he het hp l hw hl
  · rw [hcode] at hc; exact absurd hc (by simp)

/-- **C11 (monotone in the rule set).** Adding rules — anywhere in the lists — never removes a
reported (source, sink) pair (`vuln_type` may change: it is taken from the last consulted rule). -/
theorem C11_monotone {vr : Variant} (hr : vr.resetTargetPos = true) (g : Graph) (prm : Params)
    (rs rs' : RuleSet) (hle : rs.le rs') (f : Flow) (hf : f ∈ analyze vr g prm rs) :
    ∃ f' ∈ analyze vr g prm rs', f'.src = f.src ∧ f'.sink = f.sink := by
  obtain ⟨h1, h2, h3, _⟩ := mem_analyze.1 hf
  exact ⟨⟨f.src, f.sink, (sinkTag vr g rs' (propagate g prm f.src) f.sink).vuln⟩,
    mem_analyze.2 ⟨findSources_mono hle h1, findSinks_mono hle h2, sinkTag_mono hr hle _ _ h3, rfl⟩,
    rfl, rfl⟩

theorem C11_monotone_current (g : Graph) (prm : Params) (rs rs' : RuleSet) (hle : rs.le rs')
    (f : Flow) (hf : f ∈ analyze current g prm rs) :
    ∃ f' ∈ analyze current g prm rs', f'.src = f.src ∧ f'.sink = f.sink :=
  C11_monotone rfl g prm rs rs' hle f hf

/-! ### Non-vacuity: the repaired model reports the flow of `y = req.get(); sink(y)` under Python
rules, and nothing when the tainted value sits in the second argument. -/

set_option maxRecDepth 4096 in
example : analyze current (gObjCall 1) prm0 rsPy = [{ src := 1, sink := 2, vuln := some "v" }] := by
  decide +kernel
set_option maxRecDepth 4096 in
example : analyze current (gObjCall 2) prm0 rsPy = [] := by decide +kernel
example : rsPy.le { rsPy with sinks := sinkCall "%" .none :: rsPy.sinks } :=
  ⟨fun _ h => h, fun _ h => List.mem_cons_of_mem _ h, fun _ h => h, fun _ h => h⟩

/-! ### The pinned commit violates the property (frozen variants, one defect each; the cases are
those of Spec/TaintWitness.lean, replayed on the real code by every run). -/

/-- `rule.lang` was never consulted: rules listed under `lang: java` report a flow in a Python unit;
the repaired code reports none. -/
theorem C11_unfixed_lang_ignored :
    analyze wLang.frozen wLang.g prm0 wLang.rs = [{ src := 1, sink := 2, vuln := some "v" }] ∧
    analyze current wLang.g prm0 wLang.rs = [] := by
  decide +kernel

/-- an unknown target keyword as first target reached `target_pos` unbound (UnboundLocalError: the
whole taint phase aborts); the repaired code treats it as naming no position. -/
theorem C11_unfixed_stale_target_pos :
    flowsErr wTargetPos.frozen wTargetPos.g prm0 wTargetPos.rs [1] [2] = true ∧
    flowsErr current wTargetPos.g prm0 wTargetPos.rs [1] [2] = false ∧
    analyze current wTargetPos.g prm0 wTargetPos.rs = [] := by
  decide +kernel

/-- a `sink_from_code` rule written for another file (same line, matching symbol text) made every
argument of `sink(0, y)` count although the matching rule names `\\%arg0`. -/
theorem C11_unfixed_code_sink_other_file :
    analyze wCodeSink.frozen wCodeSink.g prm0 wCodeSink.rs
      = [{ src := 1, sink := 2, vuln := some "v" }] ∧
    analyze current wCodeSink.g prm0 wCodeSink.rs = [] := by
  decide +kernel

/-- `get_sink_tag_by_rules` ignored `line_num`: a rule restricted to line 9 (`\\%arg1`) contributed its
target to the call on line 2 that a rule restricted to line 2 (`\\%arg0`) had selected. -/
theorem C11_unfixed_sink_rule_location_ignored :
    analyze wSinkLoc.frozen wSinkLoc.g prm0 wSinkLoc.rs
      = [{ src := 1, sink := 2, vuln := some "v" }] ∧
    analyze current wSinkLoc.g prm0 wSinkLoc.rs = [] := by
  decide +kernel

/-- `apply_field_read_source_rules` ignored `unit_name` / `line_num`: a field-read source rule
restricted to line 7 of other.py made `z = cfg.secret` on line 1 of a.py a source. -/
theorem C11_unfixed_field_read_location_ignored :
    analyze wFieldRead.frozen wFieldRead.g prm0 wFieldRead.rs
      = [{ src := 1, sink := 3, vuln := some "v" }] ∧
    analyze current wFieldRead.g prm0 wFieldRead.rs = [] := by
  decide +kernel

/-- `_propagate_from_state` wrote the id of a containing STATE (STATE_INCLUSION predecessor) into
the SYMBOL table: the unrelated variable `x` whose symbol id equals that state id became tainted and
`sink(x)` was reported; the repaired code writes SYMBOL predecessors only. -/
theorem C11_unfixed_state_id_tagged_as_symbol :
    analyze current wStateId.g (wStateId.frozenPrm prm0) wStateId.rs
      = [{ src := 1, sink := 4, vuln := some "v" }] ∧
    analyze current wStateId.g prm0 wStateId.rs = [] := by
  decide +kernel

/-- the `sink_from_code` branch of `get_sink_tag_by_rules` consulted every predecessor of the sink,
also the STATE node of a literal operand (STATE_IS_USED), whose state id it looked up in the SYMBOL
table: `w = src(); sink(7)` was reported when the literal's state id equalled the symbol id of `w`.
The repaired code consults SYMBOL predecessors only. -/
theorem C11_unfixed_code_sink_state_operand :
    analyze wCodeLit.frozen wCodeLit.g prm0 wCodeLit.rs = [{ src := 1, sink := 4, vuln := none }] ∧
    analyze current wCodeLit.g prm0 wCodeLit.rs = [] := by
  decide +kernel

/-- **only symbols are consulted at the sink.** When the SYMBOL_IS_USED in-edges of the sink come from
SYMBOL nodes (true of every SFG lian builds) a reported pair is backed by a SYMBOL predecessor of the
sink that watches a location reachable from the source: no state id is looked up in the SYMBOL table. -/
theorem C11_sink_consults_symbols_only {vr : Variant} (hr : vr.resetTargetPos = true)
    (hso : vr.codeSinkSymOnly = true) (g : Graph) (prm : Params) (rs : RuleSet) (src sink : Nat)
    (hused : ∀ e ∈ g.inE sink, e.etype = E_USED → g.kindOf e.peer = K_SYMBOL)
    (h : (sinkTag vr g rs (propagate g prm src) sink).tag = true) :
    ∃ e ∈ g.inE sink, g.kindOf e.peer = K_SYMBOL ∧ ∃ l, Watch g e.peer l ∧ Reach g prm src l := by
  obtain ⟨_, hj⟩ := sinkTag_justified hr (propagate_sound g prm src) h
  rcases hj with ⟨_, _, _, _, e, he, het, _, l, hw, hl⟩ | ⟨_, e, he, hk, l, hw, hl⟩
  · exact ⟨e, he, hused e he het, l, hw, hl⟩
  · exact ⟨e, he, hk hso, l, hw, hl⟩

/-- with `stateUpSymOnly` (`_propagate_from_state` writes SYMBOL predecessors only) the SYMBOL table
receives ids of SYMBOL nodes and of the symbols a propagating statement defines, nothing else. -/
theorem C11_symbol_table_holds_symbols (g : Graph) (prm : Params) (hs : prm.stateUpSymOnly = true)
    {u : Nat} {i : Int} (h : Conseq g prm u (true, i)) :
    ∃ x, g.nid x = i ∧ (g.kindOf x = K_SYMBOL ∨ ∃ e ∈ g.outE u, e.etype = E_DEFINED ∧ e.peer = x) := by
  generalize hl : ((true, i) : Loc) = l at h
  cases h with
  | symState _ _ _ => cases hl
  | symFlow _ _ _ hpk => cases hl; exact ⟨_, rfl, .inl hpk⟩
  | stateUp _ _ _ hk => cases hl; exact ⟨_, rfl, .inl (hk hs)⟩
  | stateDown _ _ _ _ => cases hl
  | stmtDef _ _ he het => cases hl; exact ⟨_, rfl, .inr ⟨_, he, het, rfl⟩⟩
  | recv _ _ _ _ _ _ hpk => cases hl; exact ⟨_, rfl, .inl hpk⟩

/-- with a stale `target_pos` the sink tag is not monotone in the rule set: the frozen model
answers an error where the smaller rule set answers a flow. -/
theorem C11_unfixed_not_monotone :
    analyze wTargetPos.frozen (gObjCall 1) prm0 rsPy = [{ src := 1, sink := 2, vuln := some "v" }] ∧
    flowsErr wTargetPos.frozen (gObjCall 1) prm0
      { rsPy with sinks := sinkCall "python" (.list [some "%bogus"]) :: rsPy.sinks } [1] [2] = true := by
  decide +kernel

end LianVerif.C11
