/-
C06 — Reaching definitions are sound and flow-sensitive.

Models: LianVerif/Model/WorkList.lean, LianVerif/Model/ReachDef.lean
  (`rd` = the live model, `rd0` = the frozen model of the pinned commit, for C06 the same term;
   `sweep`/`ideal` = idealised solvers, *not* the code).
Spec:   LianVerif/Spec/ClassicalRD.lean (path-based reaching definitions).

The property: the set of definitions treated as reaching a use (1) contains each definition that reaches
it in some execution in which no loop body runs more than once and (2) contains no definition that is
overwritten on every control-flow path to the use; (3) on loop-free code it is exactly the classical
solution.  "First clause", "second clause", "third sentence" below refer to these.

Three strengths (see NOTES-C06.md).  About the code's model `rdWith v`, for every CFG, budget and both
work-list variants: termination, the visit budget, the use-site projection, and soundness of kill under
the run-time hypothesis `skips = 0` (the `if key in current_bits: continue` shortcut was never taken;
without it the statement is false, `C06_skip_kill_retains_dead_def`), exactness when in addition the
final tables pass the post-fixpoint check.  About the idealised solvers only: full soundness and
exactness.  About the frozen model `rd0`: negative theorems on concrete CFGs that the harness replays on
the real code (corpus/C06).
-/
import LianVerif.Proofs.ReachDef

namespace LianVerif.C06
open LianVerif.WorkList LianVerif.ReachDef LianVerif.ClassicalRD

/-- **C06 (second clause, model of the code), partial.**  If the run never took the
`if key in current_bits: continue` shortcut, nothing that is overwritten on every path is retained in a
final in or out set.  The hypothesis is a run-time flag of the same model run that is diffed against
the real in/out sets (the driver reports it; the harness requires it to be 0 on every compared method).
Without it the statement is false for the model (`C06_skip_kill_retains_dead_def`).  On CFGs produced by
lian's control-flow pass the shortcut cannot fire as long as the edge-weight lookup returns `None` (a loop
statement reads no predecessor after its first visit, so no definition travels round a cycle); that
argument needs a structural characterisation of lian's CFGs and is not formalised. -/
theorem C06_no_dead_defs_partial (v : Variant) (I : Input) (hs : (rdWith v I).skips = 0) :
    (∀ u d, d ∈ (rdWith v I).ins u →
      ReachIn (EdgeOf (mkGraph I.rawEdges).E) (defsOf I.defs) d u) ∧
    (∀ u d, d ∈ (rdWith v I).outs u →
      ReachOut (EdgeOf (mkGraph I.rawEdges).E) (defsOf I.defs) d u) := by
  obtain ⟨st, h, e⟩ := rdWith_of_inv v I (P := fun st => st.skips = 0 → Inv _ I.defs st.ins st.outs)
    (fun _ => inv_empty) (step_inv v I _)
  rw [e] at hs ⊢
  exact h hs

theorem C06_no_dead_defs_live_partial (I : Input) (hs : (rd I).skips = 0) :
    ∀ u d, d ∈ (rd I).ins u → ReachIn (EdgeOf (mkGraph I.rawEdges).E) (defsOf I.defs) d u :=
  (C06_no_dead_defs_partial .pinned I hs).1

/-- **C06 (mechanism "bounded re-visits").**  Whatever the CFG, no statement is analysed more than
`max_analysis_round` times — the budget that replaces a true fixpoint (and that `C06_dag_def_lost`
shows to be spent on the wrong visits). -/
theorem C06_visit_budget (v : Variant) (I : Input) (s : Int) :
    (rdWith v I).visits.count s ≤ I.maxRound := by
  obtain ⟨st, h, e⟩ := rdWith_of_inv v I
    (P := fun st => ∀ s, st.visits.count s = st.counters s ∧ st.counters s ≤ I.maxRound)
    (fun _ => ⟨rfl, Nat.zero_le _⟩) (step_counters v I _)
  rw [e, List.count_reverse, (h s).1]
  exact (h s).2

/-- **The visit loop terminates within the model's fuel** (so `rd` really is the result of running the
loop to an empty work list, for every CFG, cyclic or not).  Ranking function: length of the work list
plus, per CFG edge, the remaining visits of its source; every iteration removes one entry and an
analysed visit pays for the successors it pushes. -/
theorem C06_run_finishes (v : Variant) (I : Input) : (rdWith v I).finished = true := by
  rw [rdWith, run_finishes v I _ _ _ (init_mu I _ (mkGraph_first_le _))]
  rfl

/-- **C06 (use-site layer).**  What `check_reachable_symbol_defs` hands to the symbol graph and to the
state computation at a use of `sym` — `available_symbol_defs & frame.defined_symbols[sym]` — is exactly
the projection of the statement's in set on `sym`: at the final in set and at the in set of *every*
visit, for every CFG and both work-list variants.  (The harness checks the same identity on every real
call of `check_reachable_symbol_defs`.) -/
theorem C06_use_site_is_projection (v : Variant) (I : Input) (sym : Int) :
    (∀ u, useSite (register I) ((rdWith v I).ins u) sym = ((rdWith v I).ins u).filter (fun d => d.1 == sym)) ∧
    (∀ l ∈ (rdWith v I).inTrace, useSite (register I) l sym = l.filter (fun d => d.1 == sym)) := by
  obtain ⟨st, h, e⟩ := rdWith_of_inv v I (P := RegInv I) (regInv_init I _) (step_reg v I _)
  rw [e]
  exact ⟨fun u => useSite_eq_filter (h.2.1 u) sym,
    fun l hl => useSite_eq_filter (h.2.2 l (List.mem_reverse.1 hl)) sym⟩

/-- **C06 (second clause, idealised solver).**  Holds whether or not the round-robin solver reports
convergence. -/
theorem C06_ideal_no_dead_defs (I : Input) :
    ∀ u d, d ∈ (ideal I).sol.ins u →
      ReachIn (EdgeOf (mkGraph I.rawEdges).E) (defsOf I.defs) d u :=
  (iterate_inv _ _ Sol.empty 0 inv_empty).1

/-- **C06 (first clause, certified monitor).**  Any in/out tables that pass the post-fixpoint check
contain every definition that reaches along *any* CFG path — in particular along the paths of
executions in which no loop body runs more than once.  The driver runs `chkFix` on the idealised
solver's result and on the *real* in/out sets. -/
theorem C06_fixpoint_sound (E : List (Int × Int)) (defs : List (Int × List Int)) (nodes : List Int)
    (sol : Sol) (h : chkFix E defs nodes sol = true) :
    (∀ d u, ReachOut (EdgeOf E) (defsOf defs) d u → d.2 ∈ nodes → d ∈ sol.outs u) ∧
    (∀ d u, ReachIn (EdgeOf E) (defsOf defs) d u → d.2 ∈ nodes → d ∈ sol.ins u) := by
  refine ⟨fun d u hr hn => (chkFix_complete h).1 d u hr ?_, fun d u hr _ => (chkFix_complete h).2 d u hr⟩
  cases hr with
  | gen _ => exact hn
  | step _ he _ => exact ((chkFix_iff.1 h).1 _ _ he).2.1

/-- **C06 (both clauses, idealised solver).**  When the round-robin solver reports convergence its in
sets are *exactly* the classical reaching definitions, on every CFG (loops included).  (`hd` is not
needed: in sets need no such hypothesis, see `chkFix_complete`.) -/
theorem C06_ideal_exact (I : Input) (hc : (ideal I).converged = true) (d : Def) (u : Int)
    (hd : d.2 ∈ (ideal I).order) :
    d ∈ (ideal I).sol.ins u ↔ ReachIn (EdgeOf (mkGraph I.rawEdges).E) (defsOf I.defs) d u :=
  ⟨C06_ideal_no_dead_defs I u d, fun hr =>
    (C06_fixpoint_sound _ _ _ _ (iterate_converged _ _ Sol.empty 0 hc)).2 d u hr hd⟩

/-- **C06, certified per-run exactness for the model of the code.**  Whenever a run of the model of
the code (either work-list variant) did not take the kill-skipping shortcut and its final tables (exit
node patched in) pass the post-fixpoint check, its in sets are *exactly* the classical reaching
definitions at every statement.  Both hypotheses are evaluated by the driver for every compared method
(on the real tables, which equal the model's by the correspondence check): this certifies the real
result method by method where it is right, and fails on exactly the methods of the open findings. -/
theorem C06_certified_exact (v : Variant) (I : Input) (hs : (rdWith v I).skips = 0)
    (hfix : chkFix (mkGraph I.rawEdges).E I.defs (mkGraph I.rawEdges).nodes
      (patchExit (mkGraph I.rawEdges).E { ins := (rdWith v I).ins, outs := (rdWith v I).outs }) = true)
    (d : Def) (u : Int) (hu : u ≠ -1) (hd : d.2 ∈ (mkGraph I.rawEdges).nodes) :
    d ∈ (rdWith v I).ins u ↔ ReachIn (EdgeOf (mkGraph I.rawEdges).E) (defsOf I.defs) d u := by
  refine ⟨(C06_no_dead_defs_partial v I hs).1 u d, fun hr => ?_⟩
  have := (C06_fixpoint_sound _ _ _ _ hfix).2 d u hr hd
  rwa [patchExit_ins hu] at this

/-- **C06 (first clause, idealised solver).**  A converged run of the idealised solver contains every
definition that reaches a statement in an execution in which no loop body runs more than once. -/
theorem C06_sound_once (I : Input) (hc : (ideal I).converged = true) (loopTrue : List (Int × Int))
    (entry : Int) (d : Def) (u : Int) (hd : d.2 ∈ (ideal I).order)
    (h : ReachInOnce (mkGraph I.rawEdges).E I.defs loopTrue entry d u) :
    d ∈ (ideal I).sol.ins u :=
  (C06_ideal_exact I hc d u hd).2 (once_imp_reachIn h)

theorem sweep_outs_notin (E : List (Int × Int)) (defs : List (Int × List Int)) (order : List Int) (x : Int)
    (hx : x ∉ order) : ∀ sol : Sol, (sweep E defs order sol).outs x = sol.outs x ∧
      (sweep E defs order sol).ins x = sol.ins x :=
  sweep_notin hx

/-- **C06 (third sentence).**  On an acyclic CFG — witnessed by an order of its nodes in which every
edge goes forward (`isTopo`, decidable, checked by the driver on every loop-free method) — one sweep of
the idealised solver computes, at every statement, *exactly* the classical reaching definitions. -/
theorem C06_dag_exact (E : List (Int × Int)) (defs : List (Int × List Int)) (order : List Int)
    (htopo : isTopo E order = true) (hnd : nodupB order = true) :
    ∀ u ∈ order, ∀ d,
      (d ∈ (sweep E defs order Sol.empty).ins u ↔ ReachIn (EdgeOf E) (defsOf defs) d u) ∧
      (d ∈ (sweep E defs order Sol.empty).outs u ↔ ReachOut (EdgeOf E) (defsOf defs) d u) := by
  intro u hu d
  have hinv := sweep_inv (E := E) (defs := defs) order Sol.empty inv_empty
  have hfix := chkFix_complete (sweep_topo_chkFix (defs := defs) htopo hnd Sol.empty)
  exact ⟨⟨hinv.1 u d, hfix.2 d u⟩, ⟨hinv.2 u d, fun hr => hfix.1 d u hr hu⟩⟩

/- The witness inputs are the *real* `cfg.bundle` rows and defined-symbol tables lian produces for the
programs in corpus/C06/*.json (the harness checks on every run that they still are, and that the real
in sets equal the frozen model's on them). -/

def W_loop : Input :=
  { edges := [(122, 124, 0), (124, 125, 0), (125, 126, 0), (126, 127, 0), (127, 129, 4), (127, 131, 5), (129, 130, 0), (131, 132, 0), (130, 127, 6), (132, -1, 9)],
    stmts := [122, 124, 125, 126, 127, 129, 130, 131, 132],
    loops := [127],
    defs := [(122, [122]), (124, [124]), (125, [125]), (126, [125]), (127, []), (129, [125]), (130, [122]), (131, [124]), (132, [])],
    maxRound := 3, weightWorks := false, loopBack := 6 }

def W_hdr : Input :=
  { edges := [(122, 124, 0), (124, 125, 0), (125, 126, 0), (126, 128, 1), (126, 130, 2), (128, 129, 0), (130, 132, 4), (130, -1, 5), (129, 130, 0), (132, 130, 6)],
    stmts := [122, 124, 125, 126, 128, 129, 130, 132],
    loops := [130],
    defs := [(122, [122]), (124, [124]), (125, [125]), (126, []), (128, [125]), (129, [124]), (130, []), (132, [])],
    maxRound := 3, weightWorks := false, loopBack := 6 }

def W_dag : Input :=
  { edges := [(122, 123, 0), (123, 124, 0), (124, 125, 0), (125, 127, 0), (127, 128, 0), (128, 129, 0), (129, 130, 0), (130, 132, 1), (130, 133, 2), (132, -1, 9), (133, 135, 1), (133, 137, 2), (135, 150, 0), (137, 139, 1), (137, 149, 2), (150, -1, 9), (139, 140, 0), (149, 150, 0), (140, 142, 1), (140, 143, 2), (142, 143, 0), (143, 144, 0), (144, 146, 1), (144, 150, 2), (146, 147, 0), (147, 150, 0)],
    stmts := [122, 123, 124, 125, 127, 128, 129, 130, 132, 133, 135, 137, 139, 140, 142, 143, 144, 146, 147, 149, 150],
    loops := [],
    defs := [(122, [122]), (123, [123]), (124, [124]), (125, [125]), (127, [127]), (128, [128]), (129, [129]), (130, []), (132, []), (133, []), (135, []), (137, []), (139, [139]), (140, []), (142, []), (143, [143]), (144, []), (146, [128]), (147, [127]), (149, [127]), (150, [])],
    maxRound := 3, weightWorks := false, loopBack := 6 }

/-- the SimpleWorkList defect in isolation: `peek` returns 5; pushing the higher-priority item 3 puts it
at index 0; `pop()` then removes 3 — not the element that was peeked — and 5 stays queued. -/
theorem C06_pop_removes_other_element :
    let prio : List (Int × Nat) := [(5, 1), (3, 0)]
    let w := WL.empty.add prio [5]
    w.peek = some 5 ∧ (w.add prio [3]).peek = some 3 ∧
    ((w.add prio [3]).pop0).peek = some 5 ∧ ((w.add prio [3]).pop0).all = [5] := by decide

/- Each run is evaluated once, for the projections the statements mention. -/

theorem rd0_loop : (rd0 W_loop).ins 131 = [(122, 122), (124, 124), (125, 126)] ∧ (rd0 W_loop).skips = 0 ∧
    (rd0 W_loop).visits = [122, 124, 125, 126, 127, 129, 131, 130, 132, 130, 130] := by decide +kernel

theorem rd0_hdr : (rd0 W_hdr).ins 130 = [] ∧ (rd0 W_hdr).ins 132 = [] ∧ (rd0 W_hdr).skips = 0 ∧
    (rd0 W_hdr).visits = [122, 124, 125, 126, 128, 130, 129, 130, 132, 132, 132] := by decide +kernel

theorem rd0_dag : (rd0 W_dag).ins 150 = [(122, 122), (123, 123), (124, 124), (125, 125), (127, 127),
      (128, 128), (129, 129), (127, 149), (139, 139), (143, 143)] ∧ (rd0 W_dag).skips = 0 ∧
    (rd0 W_dag).visits = [122, 123, 124, 125, 127, 128, 129, 130, 132, 133, 137, 149, 150, 135, 139,
      140, 142, 150, 143, 144, 146, 150, 147] := by decide +kernel

/-- `x=1; while c: x=2; c=c-1; y=x` (corpus/C06/loop_def_lost.json; 125 = x, 129 = `x = 2`,
126 = `x = 1`, 131 = `y = x`, 127 = the `while`): the definition `x = 2` reaches `y = x` in the execution
that runs the loop body once, the frozen model (= the real code) reports only `x = 1` there, because the
loop header 127 is never analysed again: the visit sequence ends `…, 130, 132, 130, 130`. -/
theorem C06_loop_def_lost :
    ((rd0 W_loop).ins 131).contains (125, 129) = false ∧
    ((rd0 W_loop).ins 131).contains (125, 126) = true ∧
    onceWitness (mkGraph W_loop.rawEdges).E W_loop.defs [(127, 129)] 122 (125, 129) 131
      [122, 124, 125, 126, 127] [130, 127] = true ∧
    (rd0 W_loop).visits = [122, 124, 125, 126, 127, 129, 131, 130, 132, 130, 130] := by
  refine ⟨?_, ?_, ?_, rd0_loop.2.2⟩
  · rw [rd0_loop.1]; rfl
  · rw [rd0_loop.1]; rfl
  · decide +kernel

/-- `if c: y=1; x=2` followed by `while c: pass` (corpus/C06/header_revisit_reads_nothing.json):
the join after the `if` is visited twice, so the loop header 130 is visited twice; the second time it
reads no predecessor at all (`get_graph_edge_weight` yields `None` for every edge of the loaded
MultiDiGraph): its final in set and that of the loop body are empty although the parameter `c`
(definition (122,122)) reaches both on every execution. -/
theorem C06_header_revisit_reads_nothing :
    (rd0 W_hdr).ins 130 = [] ∧ (rd0 W_hdr).ins 132 = [] ∧
    onceWitness (mkGraph W_hdr.rawEdges).E W_hdr.defs [(130, 132)] 122 (122, 122) 130
      [] [124, 125, 126] = true ∧
    (rd0 W_hdr).visits = [122, 124, 125, 126, 128, 130, 129, 130, 132, 132, 132] := by
  refine ⟨rd0_hdr.1, rd0_hdr.2.1, ?_, rd0_hdr.2.2.2⟩
  decide +kernel

/-- loop-free witness (corpus/C06/dag_join_def_lost.json; 150 = `return w`, 147 = `w = w`, 127 = w):
`return w` is visited three times — its whole budget — before its predecessor 147 is analysed for the
first time, so the definition made by 147 never arrives although it reaches 150 on a real path.
So even on an acyclic CFG the pinned schedule does not make a statement's last visit follow the visits
of its predecessors. -/
theorem C06_dag_def_lost :
    ((rd0 W_dag).ins 150).contains (127, 147) = false ∧
    onceWitness (mkGraph W_dag.rawEdges).E W_dag.defs [] 122 (127, 147) 150
      [122, 123, 124, 125, 127, 128, 129, 130, 133, 137, 139, 140, 143, 144, 146] [] = true ∧
    W_dag.loops = [] ∧
    (rd0 W_dag).visits = [122, 123, 124, 125, 127, 128, 129, 130, 132, 133, 137, 149, 150, 135, 139,
      140, 142, 150, 143, 144, 146, 150, 147] := by
  refine ⟨?_, ?_, rfl, rd0_dag.2.2⟩
  · rw [rd0_dag.1]; rfl
  · decide +kernel

/-- an artificial CFG, not lian-shaped, with the cycle 1→4→2→1; 1, 3 and 4 define symbol 9 -/
def W_skip : Input :=
  { edges := [(3, 1, 0), (2, 1, 0), (4, 2, 0), (1, 4, 0), (2, 4, 0)], stmts := [1, 2, 3, 4], loops := [],
    defs := [(1, [9]), (2, []), (3, [9]), (4, [9])], maxRound := 3, weightWorks := false, loopBack := 6 }

theorem rd_skip : (rd W_skip).ins 2 = [(9, 1), (9, 4)] ∧ (rd W_skip).skips = 2 := by decide +kernel

/-- On `W_skip` the model of the code *as it is* retains a dead definition: statement 1 is re-analysed
after its own definition travelled round the cycle 1→4→2→1, the `if key in current_bits: continue`
shortcut skips the kill, and (9,1) survives into the in set of 2 although the only predecessor of 2 is
4, which redefines symbol 9.  So the hypothesis `skips = 0` of `C06_no_dead_defs_partial` cannot simply
be dropped. -/
theorem C06_skip_kill_retains_dead_def :
    ((rd W_skip).ins 2).contains (9, 1) = true ∧ (rd W_skip).skips ≠ 0 ∧
    ¬ ReachIn (EdgeOf (mkGraph W_skip.rawEdges).E) (defsOf W_skip.defs) (9, 1) 2 := by
  refine ⟨?_, ?_, not_reachIn_of_killed ?_⟩
  · rw [rd_skip.1]; rfl
  · rw [rd_skip.2]; decide
  · decide +kernel

/-- corpus/C06/kill_skip_dead_def.json:
`while y > 5: if y > 2: pass else: (if x: return c else: return y); x = y + z` / `x = z + x` / `z = 2`
(127 = the `while`, 139 = `x = y + z`, 140 = `x = z + x`, 141 = `z = 2`, 125 = x) -/
def W_kill : Input :=
  { edges := [(122, 124, 0), (124, 125, 0), (125, 126, 0), (126, 127, 0), (127, 129, 4), (127, -1, 5), (129, 130, 0), (130, 132, 1), (130, 134, 2), (132, 140, 0), (134, 136, 1), (134, 138, 2), (140, 141, 0), (136, -1, 9), (138, -1, 9), (141, 142, 0), (139, 140, 0), (142, 127, 6)],
    stmts := [122, 124, 125, 126, 127, 129, 130, 132, 134, 136, 138, 139, 140, 141, 142],
    loops := [127],
    defs := [(122, [122]), (124, [124]), (125, [125]), (126, [126]), (127, []), (129, [129]), (130, []), (132, []), (134, []), (136, []), (138, []), (139, [125]), (140, [125]), (141, [124]), (142, [126])],
    maxRound := 3, weightWorks := false, loopBack := 6 }

theorem rd0_kill : (rd0 W_kill).ins 141 = [(122, 122), (124, 124), (125, 125), (126, 126), (125, 140),
      (124, 141), (126, 142), (129, 129), (125, 139)] ∧ (rd0 W_kill).skipStmts = [140, 141, 142, 142] ∧
    (rd0 W_kill).visits = [122, 139, 124, 140, 125, 141, 126, 142, 127, 129, 130, 132, 134, 138, 136,
      140, 141, 142, 142] := by decide +kernel

/-- The defect of `C06_skip_kill_retains_dead_def` on a **real** lian CFG.  139 has no CFG predecessor
(both branches above it return), so it is a second work-list entry with priority 0 and 140, 141, 142
are analysed *before* the loop header 127; the header's first visit reads the back edge, the definition
(125,140) travels round the loop, and at the second visit of 140 the kill is skipped: (125,125) and
(125,139) — definitions of `x` that 140 overwrites on every path, 140 being the only predecessor of
141 — are in the final in set of 141 (reachable from the entry). -/
theorem C06_kill_skip_dead_def_real :
    ((rd0 W_kill).ins 141).contains (125, 139) = true ∧ ((rd0 W_kill).ins 141).contains (125, 125) = true ∧
    (rd0 W_kill).skipStmts.contains 140 = true ∧
    ¬ ReachIn (EdgeOf (mkGraph W_kill.rawEdges).E) (defsOf W_kill.defs) (125, 139) 141 ∧
    ¬ ReachIn (EdgeOf (mkGraph W_kill.rawEdges).E) (defsOf W_kill.defs) (125, 125) 141 ∧
    (rd0 W_kill).visits = [122, 139, 124, 140, 125, 141, 126, 142, 127, 129, 130, 132, 134, 138, 136,
      140, 141, 142, 142] := by
  refine ⟨?_, ?_, ?_, not_reachIn_of_killed ?_, not_reachIn_of_killed ?_, rd0_kill.2.2⟩
  · rw [rd0_kill.1]; rfl
  · rw [rd0_kill.1]; rfl
  · rw [rd0_kill.2.1]; rfl
  · decide +kernel
  · decide +kernel

/-- the hypothesis of `C06_no_dead_defs_partial` holds on the three real witnesses … -/
example : (rd W_loop).skips = 0 ∧ (rd W_hdr).skips = 0 ∧ (rd W_dag).skips = 0 :=
  ⟨rd0_loop.2.1, rd0_hdr.2.2.1, rd0_dag.2.1⟩

/-- … and its conclusion is not vacuous: in sets are non-empty there. -/
example : (rd W_loop).ins 131 = [(122, 122), (124, 124), (125, 126)] := rd0_loop.1

/-- the idealised solver converges on the loop witness, contains the definition the code loses, and
its result passes the certified post-fixpoint check (hypotheses of `C06_ideal_exact`, `C06_sound_once`,
`C06_fixpoint_sound`). -/
example : (ideal W_loop).converged = true ∧ ((ideal W_loop).sol.ins 131).contains (125, 129) = true ∧
    (129 : Int) ∈ (ideal W_loop).order ∧
    chkFix (mkGraph W_loop.rawEdges).E W_loop.defs (ideal W_loop).order (ideal W_loop).sol = true := by
  decide +kernel

/-- the real in/out sets of the loop witness (= the frozen model's) do *not* pass the check. -/
example : chkFix (mkGraph W_loop.rawEdges).E W_loop.defs (mkGraph W_loop.rawEdges).nodes
    { ins := upd (rd0 W_loop).ins (-1) ((rd0 W_loop).outs 132),
      outs := upd (rd0 W_loop).outs (-1) ((rd0 W_loop).outs 132) } = false := by decide +kernel

/-- hypotheses of `C06_dag_exact` on the loop-free witness: the DFS order of its CFG is topological,
and the single sweep contains the definition the code loses. -/
example : isTopo (mkGraph W_dag.rawEdges).E (fullOrder (mkGraph W_dag.rawEdges)) = true ∧
    nodupB (fullOrder (mkGraph W_dag.rawEdges)) = true ∧
    ((sweep (mkGraph W_dag.rawEdges).E W_dag.defs (fullOrder (mkGraph W_dag.rawEdges)) Sol.empty).ins 150).contains
      (127, 147) = true := by decide +kernel

/-- `x=1; if c: x=2; y=x` (1 = `x = 1`, 3 = `x = 2`, 4 = `y = x`, 9 = x) -/
def W_if : Input :=
  { edges := [(1, 2, 0), (2, 3, 1), (2, 4, 2), (3, 4, 0), (4, -1, 9)], stmts := [1, 2, 3, 4], loops := [],
    defs := [(1, [9]), (2, []), (3, [9]), (4, [8])], maxRound := 3, weightWorks := false, loopBack := 6 }

/-- hypotheses of `C06_certified_exact` hold for the code's model on `W_if`, and both definitions of `x`
reach the join. -/
example : (rd W_if).skips = 0 ∧
    chkFix (mkGraph W_if.rawEdges).E W_if.defs (mkGraph W_if.rawEdges).nodes
      (patchExit (mkGraph W_if.rawEdges).E { ins := (rd W_if).ins, outs := (rd W_if).outs }) = true ∧
    (rd W_if).ins 4 = [(9, 1), (9, 3)] ∧ (rd W_if).visits.count 4 = 1 := by decide +kernel

/-- hypotheses of `C06_certified_exact` hold for the candidate repair R1 on the loop-free witness. -/
theorem r1_dag_certified : (rdWith .r1 W_dag).skips = 0 ∧
    chkFix (mkGraph W_dag.rawEdges).E W_dag.defs (mkGraph W_dag.rawEdges).nodes
      (patchExit (mkGraph W_dag.rawEdges).E
        { ins := (rdWith .r1 W_dag).ins, outs := (rdWith .r1 W_dag).outs }) = true := by decide +kernel

example : (rdWith .r1 W_dag).skips = 0 ∧
    chkFix (mkGraph W_dag.rawEdges).E W_dag.defs (mkGraph W_dag.rawEdges).nodes
      (patchExit (mkGraph W_dag.rawEdges).E
        { ins := (rdWith .r1 W_dag).ins, outs := (rdWith .r1 W_dag).outs }) = true := r1_dag_certified

/-- candidate repair R1 (heappop the analysed statement, then push): exact on the loop-free witness,
still wrong on both loop witnesses (the re-visited header reads no predecessor). -/
example : ((rdWith .r1 W_dag).ins 150).contains (127, 147) = true ∧
    (rdWith .r1 W_loop).ins 131 = [] ∧ (rdWith .r1 W_hdr).ins 132 = [] := by
  refine ⟨List.contains_iff_mem.2 ?_, ?_⟩
  · exact (C06_certified_exact .r1 W_dag r1_dag_certified.1 r1_dag_certified.2 (127, 147) 150 (by decide)
      (by decide +kernel)).2 (once_imp_reachIn ⟨_, _, C06_dag_def_lost.2.1⟩)
  · decide +kernel

end LianVerif.C06
