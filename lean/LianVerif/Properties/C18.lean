/-
C18 — Running lian never alters inputs and writes only inside its workspace.

Model: LianVerif/Model/Workspace.lean — `prepare v fuel cfg fs` is workspace preparation
(`Lian.set_workspace_dir` + `WorkspaceBuilder.run`) over the abstract file system of Spec/Fs.lean;
`Variant.live` = the repaired code (fix: 1002e8d, c360ebe), `Variant.pinned` = the pinned commit.

`W` is the physical workspace directory.  The `…_partial` theorems assume the decidable predicate
`inFragment cfg fs W` (Model/Workspace.lean): well-formed file system, and the workspace option leads
to `W` in both of its readings, independently of the contents of `W`.  Outside that fragment the
property is FALSE for `Variant.live` (open finding C18/ws-dotdot-after-symlink, witness below), so
the containment statements cannot be proved without it; the harness evaluates `inFragment` on every placement it
generates and reports how many fall inside.

-- OPEN (not proved):
--   * a bound on the number of copies (the property's "bounded copying"; no theorem states it):
--       `copyCount (prepare .live fuel cfg fs).1.log ≤ (cfg.inputs.length + 1) * (number of files of fs outside W)`.
--     Proved instead: termination of the repaired walk within `maxDepth + 2` levels
--     (`C18_copy_terminates_partial`); the number of copies is monitored on every placement by the
--     snapshot oracle (new files ≤ (inputs + 1) × files before; depth bounded).
--   * the directories created by `prepare_directory` are ancestors of `W` (they are characterised
--     here only as "directory creations of prepare_directory").
--   * the statements without `inFragment` (false for `Variant.live`, see the dotdot witness).
-/
import LianVerif.Proofs.WorkspaceBound

namespace LianVerif.C18
open LianVerif.Fs LianVerif.Workspace

/-- **C18 (writes and deletions only inside the workspace).**  Every effect of a run — for both
variants, any fuel — lies strictly below the physical workspace directory `W`, except the directory
creations `prepare_directory` performs to create the workspace path itself. -/
theorem C18_effects_within_ws_partial (v : Variant) (fuel : Nat) (cfg : Cfg) (fs : FS) (W : Path)
    (hf : inFragment cfg fs W = true) :
    ∀ e ∈ (prepare v fuel cfg fs).1.log,
      Below W e.path ∨ (e ∈ (prepState cfg fs).log ∧ ∃ p, e = .mkdir p) := by
  have honly := prepareDirectory_only cfg.cwd (wsAbsPath cfg (setWorkspaceDir cfg)) (initSt fs)
  intro e he
  rcases prepare_within (frag_of_inFragment hf) v fuel with h | ⟨_, hlog, _⟩
  · rw [h] at he; cases he
  · exact (hlog e he).symm.imp_right fun h1 => ⟨h1, (honly.log e h1).resolve_left nofun⟩

/-- **C18 (everything outside the workspace is left alone).**  A path that is not strictly below `W`
holds after the run what it held before — or it did not exist and is now a directory (a missing
ancestor of the workspace, created by `prepare_directory`). -/
theorem C18_outside_unchanged_partial (v : Variant) (fuel : Nat) (cfg : Cfg) (fs : FS) (W : Path)
    (hf : inFragment cfg fs W = true) :
    ∀ p, ¬ Below W p →
      lookup (prepare v fuel cfg fs).1.fs p = lookup fs p ∨
      (lookup fs p = none ∧ lookup (prepare v fuel cfg fs).1.fs p = some .dir) := by
  intro p hp
  rcases prepare_within (frag_of_inFragment hf) v fuel with h | ⟨_, _, hag⟩
  · rw [h]; exact Or.inl rfl
  · rw [hag p hp]
    exact (prepareDirectory_only cfg.cwd (wsAbsPath cfg (setWorkspaceDir cfg)) (initSt fs)).fs p

/-- **C18 (inputs are byte-identical).**  Every file that is not strictly below the workspace
directory — in particular every input file outside the workspace — has the same content after the run. -/
theorem C18_inputs_unchanged_partial (v : Variant) (fuel : Nat) (cfg : Cfg) (fs : FS) (W : Path)
    (hf : inFragment cfg fs W = true) :
    ∀ p n, lookup fs p = some n → ¬ Below W p → lookup (prepare v fuel cfg fs).1.fs p = some n := by
  intro p n hn hp
  rcases C18_outside_unchanged_partial v fuel cfg fs W hf p hp with h | ⟨h, _⟩
  · rw [h, hn]
  · rw [hn] at h; simp at h

/-- **C18 (deletes only strictly below the workspace directory — at any depth — and only when forced).** -/
theorem C18_deletes_only_ws_children_partial (v : Variant) (fuel : Nat) (cfg : Cfg) (fs : FS) (W : Path)
    (hf : inFragment cfg fs W = true) :
    ∀ e ∈ (prepare v fuel cfg fs).1.log, ∀ q, (e = .unlink q ∨ e = .rmtree q) →
      Below W q ∧ cfg.force = true := by
  intro e he q hq
  rcases prepare_within (frag_of_inFragment hf) v fuel with h | ⟨hforce, _, _⟩
  · rw [h] at he; cases he
  · refine ⟨?_, hforce⟩
    rcases C18_effects_within_ws_partial v fuel cfg fs W hf e he with h | ⟨_, p, h⟩
    · rcases hq with rfl | rfl <;> exact h
    · rcases hq with rfl | rfl <;> cases h

/-- **C18 (without --force nothing happens)** — unconditional: every file system, every option. -/
theorem C18_no_force_no_effect (v : Variant) (fuel : Nat) (cfg : Cfg) (fs : FS)
    (h : cfg.force = false) : prepare v fuel cfg fs = (initSt fs, some .quit) := by
  simp [prepare, manage, h, andThen]

/-- **C18 (an input strictly inside the workspace is refused before anything is deleted)** —
the repaired code, unconditional. -/
theorem C18_input_inside_ws_refused (fuel : Nat) (cfg : Cfg) (fs : FS)
    (h : cfg.inputs.any (inputInsideWs cfg (initSt fs) (wsAbsPath cfg (setWorkspaceDir cfg))) = true) :
    prepare .live fuel cfg fs = (initSt fs, some .quit) := by
  unfold prepare manage
  by_cases hforce : cfg.force = true
  · simp [hforce, Variant.refuse, h, andThen]
  · have : cfg.force = false := by simpa using hforce
    simp [this, andThen]

/-- **C18 (bounded copying: the repaired walk terminates).**  With the fuel the driver uses (depth
of the file system + slack) the repaired run never reports `fuelOut`: the walk never enters the
workspace it is filling, so it only visits directories that existed outside the workspace before.
Extra hypotheses (`inFragmentBound`): the workspace location computed by `WorkspaceBuilder.__init__`
is `W`, and the working directory is a physical directory not strictly inside `W`. -/
theorem C18_copy_terminates_partial (cfg : Cfg) (fs : FS) (W : Path)
    (hf : inFragmentBound cfg fs W = true) :
    (prepare .live (defaultFuel cfg fs) cfg fs).2 ≠ some .fuelOut := by
  simp only [inFragmentBound, Bool.and_eq_true, beq_iff_eq, Bool.not_eq_true'] at hf
  obtain ⟨⟨⟨h1, h2⟩, h3⟩, h4⟩ := hf
  have hfrag := frag_of_inFragment h1
  have b : BoundCtx W (prepState cfg fs).fs cfg.cwd :=
    ⟨physDir_of_B h3, fun hb => by
      rw [strictlyInside_iff.2 hb] at h4
      cases h4⟩
  refine prepare_noFuel hfrag h2 b ?_
  unfold defaultFuel prepState
  omega

def rel (l : List String) : RPath := { abs := false, comps := l }

/-- `lang -l python -w p -f p` run in `/r`: the workspace `/r/p/lian_workspace` lies inside the input `/r/p`. -/
def cfgIn : Cfg := { cwd := ["r"], wsOpt := rel ["p"], inputs := [rel ["p"]], force := true, exts := [".py"], subdirs := ["src", "externs"], srcDir := "src", externsDir := "externs", defaultName := "lian_workspace", mock := none }

def fsIn : FS := [(["r"], .dir), (["r", "p"], .dir), (["r", "p", "a.py"], .file 1),
  (["r", "p", "lian_workspace"], .dir), (["r", "p", "lian_workspace", "old"], .link (rel ["..", "a.py"]))]

example : inFragment cfgIn fsIn ["r", "p", "lian_workspace"] = true := by decide +kernel

example : inFragmentBound cfgIn fsIn ["r", "p", "lian_workspace"] = true := by decide +kernel

/-- the repaired code on that placement: the old link is unlinked (not followed), one copy is made -/
example : (prepare .live 12 cfgIn fsIn).2 = none ∧
    (prepare .live 12 cfgIn fsIn).1.log =
      [.unlink ["r", "p", "lian_workspace", "old"],
       .mkdir ["r", "p", "lian_workspace", "src"], .mkdir ["r", "p", "lian_workspace", "externs"],
       .mkdir ["r", "p", "lian_workspace", "src", "p"],
       .create ["r", "p", "lian_workspace", "src", "p", "a.py"]] := by decide +kernel

/-- Defect 1 (fixed by 1002e8d): with the workspace inside the input directory the pinned walk
descends into the workspace it is filling: it does not finish within 12 resp. 24 levels, makes more
and more copies of the single input file, ever deeper — the repaired walk finishes with one copy. -/
theorem C18_unfixed_counterexample_unbounded_copy :
    (prepare .pinned 12 cfgIn fsIn).2 = some .fuelOut ∧
    (prepare .pinned 24 cfgIn fsIn).2 = some .fuelOut ∧
    copyCount (prepare .pinned 12 cfgIn fsIn).1.log = 4 ∧
    copyCount (prepare .pinned 24 cfgIn fsIn).1.log = 8 ∧
    maxEffDepth (prepare .pinned 12 cfgIn fsIn).1.log < maxEffDepth (prepare .pinned 24 cfgIn fsIn).1.log ∧
    (prepare .live 24 cfgIn fsIn).2 = none ∧
    copyCount (prepare .live 24 cfgIn fsIn).1.log = 1 := by decide +kernel

/-- `lang -l python -w W -f W/lian_workspace/src/in` run in `/r` -/
def cfgInside : Cfg := { cwd := ["r"], wsOpt := rel ["W"], inputs := [rel ["W", "lian_workspace", "src", "in"]], force := true, exts := [".py"], subdirs := ["src", "externs"], srcDir := "src", externsDir := "externs", defaultName := "lian_workspace", mock := none }

def fsInside : FS := [(["r"], .dir), (["r", "W"], .dir), (["r", "W", "lian_workspace"], .dir),
  (["r", "W", "lian_workspace", "src"], .dir), (["r", "W", "lian_workspace", "src", "in"], .dir),
  (["r", "W", "lian_workspace", "src", "in", "a.py"], .file 7)]

/-- Defect 2 (fixed by c360ebe): the pinned code completes normally and the input file is gone;
the repaired code quits before touching anything. -/
theorem C18_unfixed_counterexample_input_deleted :
    (prepare .pinned 12 cfgInside fsInside).2 = none ∧
    lookup fsInside ["r", "W", "lian_workspace", "src", "in", "a.py"] = some (.file 7) ∧
    lookup (prepare .pinned 12 cfgInside fsInside).1.fs ["r", "W", "lian_workspace", "src", "in", "a.py"] = none ∧
    prepare .live 12 cfgInside fsInside = (initSt fsInside, some .quit) := by decide +kernel

/-- `lang -l python -f a.py lian_workspace` run in `/r`: the workspace itself is among the inputs -/
def cfgSelf : Cfg := { cwd := ["r"], wsOpt := rel ["lian_workspace"], inputs := [rel ["a.py"], rel ["lian_workspace"]], force := true, exts := [".py"], subdirs := ["src", "externs"], srcDir := "src", externsDir := "externs", defaultName := "lian_workspace", mock := none }

def fsSelf : FS := [(["r"], .dir), (["r", "a.py"], .file 1), (["r", "lian_workspace"], .dir),
  (["r", "lian_workspace", "old.py"], .file 2)]

/-- Open finding C18/input-is-workspace: the run succeeds and the file of the input
`lian_workspace` is deleted (it is a previous content of the workspace). -/
theorem C18_input_is_workspace_counterexample :
    (prepare .live 12 cfgSelf fsSelf).2 = none ∧
    lookup (prepare .live 12 cfgSelf fsSelf).1.fs ["r", "lian_workspace", "old.py"] = none := by
  decide +kernel

/-- `lang -l python -w lnk/../lian_workspace -f ../in` run in `/cwd`, `lnk -> ../else/d` -/
def cfgDot : Cfg := { cwd := ["cwd"], wsOpt := rel ["lnk", "..", "lian_workspace"], inputs := [rel ["..", "in"]], force := true, exts := [".py"], subdirs := ["src", "externs"], srcDir := "src", externsDir := "externs", defaultName := "lian_workspace", mock := none }

def fsDot : FS := [(["cwd"], .dir), (["cwd", "lian_workspace"], .dir),
  (["cwd", "lian_workspace", "old.txt"], .file 1), (["cwd", "lnk"], .link (rel ["..", "else", "d"])),
  (["else"], .dir), (["else", "d"], .dir), (["in"], .dir), (["in", "a.py"], .file 2)]

/-- Open finding C18/ws-dotdot-after-symlink: `manage_directory` empties the textual path
`/cwd/lian_workspace` while `run` fills `/else/lian_workspace`; whichever of the two is taken as the
workspace, the placement is outside the fragment and an effect lies outside it. -/
theorem C18_dotdot_after_symlink_counterexample :
    (prepare .live 12 cfgDot fsDot).2 = none ∧
    Eff.unlink ["cwd", "lian_workspace", "old.txt"] ∈ (prepare .live 12 cfgDot fsDot).1.log ∧
    Eff.create ["else", "lian_workspace", "src", "in", "a.py"] ∈ (prepare .live 12 cfgDot fsDot).1.log ∧
    inFragment cfgDot fsDot ["cwd", "lian_workspace"] = false ∧
    inFragment cfgDot fsDot ["else", "lian_workspace"] = false := by decide +kernel

end LianVerif.C18
