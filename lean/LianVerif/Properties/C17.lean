/-
C17 — Event handlers run in registration order under the documented blocking rules.

Model: LianVerif/Model/Events.lean (`register`, `registerList`, `notify`, `sync` mirror
        src/lian/events/event_manager.py and event_return.py, the repaired code in /repo).
Spec vocabulary: LianVerif/Spec/Events.lean (`fullRun`, `takeThrough`, `norm`, `unionNorm`).

Reading of the statement that is proved (and that the code implements):
* "successful handler"  = a handler whose return is not UNPROCESSED (`current != 0`); a handler that
  returns `None` counts as successful for the data hand-over (`None != 0`) but contributes no flag;
* "requests blocking"   = the handler's own return has bit 2 (STOP_OTHER_EVENT_HANDLERS);
* "union of the flags returned" = bitwise union of the *normalised* returns: a non-zero return carries
  SUCCESS, and only the four defined flags 1, 2, 4, 8 are kept (`norm`).  For the documented return
  values (0, or SUCCESS combined with the other flags) this is the plain bitwise union
  (`C17_flags_union_documented`).
-/
import LianVerif.Proofs.Events

namespace LianVerif.C17
open LianVerif.Events

variable {L D E : Type} [DecidableEq L] [DecidableEq E]

def matching (anyL lang : L) (rs : List (Reg L)) : List (Reg L) :=
  rs.filter (matchesLang anyL lang)

/-- a registration matches iff its language collection contains the event's language or the
any-language marker — membership only, so order and duplicates in the collection (e.g. the arbitrary
order of `list(a_set)`) are irrelevant. -/
theorem C17_matches_iff (anyL lang : L) (r : Reg L) :
    matchesLang anyL lang r = true ↔ (lang ∈ r.langs ∨ anyL ∈ r.langs) := by
  simp [matchesLang]

theorem C17_matches_membership_only (anyL lang : L) (l1 l2 : List L) (h : Nat)
    (hmem : ∀ x, x ∈ l1 ↔ x ∈ l2) :
    matchesLang anyL lang { langs := l1, h := h } = matchesLang anyL lang { langs := l2, h := h } := by
  rw [Bool.eq_iff_iff, C17_matches_iff, C17_matches_iff]
  simp [hmem]

/-- **C17 (who runs, in which order, where it stops).**  The calls `notify` makes are exactly the
statement's run over the matching registrations — every matching handler in registration order, each
fed the data the statement prescribes — cut after the first call whose own return has bit 2.  The
handlers of that run are the handlers of the matching registrations, and every recorded return /
`out_data` is what the handler computes from the data it was shown. -/
theorem C17_ran_exactly (anyL lang : L) (beh : Beh D) (rs : List (Reg L)) (d : D) :
    (notifyList anyL lang beh (some rs) d).trace =
        takeThrough (fun e => blocksRet e.ret) (fullRun beh (matching anyL lang rs) d d) ∧
    (fullRun beh (matching anyL lang rs) d d).map (·.h) = (matching anyL lang rs).map (·.h) ∧
    (∀ e ∈ fullRun beh (matching anyL lang rs) d d,
        e.ret = (beh e.h e.inSeen e.outSeen).1 ∧ e.outLeft = (beh e.h e.inSeen e.outSeen).2) :=
  ⟨congrArg Result.trace (loop_eq anyL lang beh rs 0 d d rfl), fullRun_handlers beh _ d d,
   fullRun_consistent beh _ d d⟩

/-- **C17 (the same, clause by clause).**  The handlers called are a prefix of the matching
registrations' handlers (so: only matching ones, in registration order, none skipped); no call before
the last one requested blocking; and if fewer handlers were called than match, the last call
requested blocking. -/
theorem C17_ran_clauses (anyL lang : L) (beh : Beh D) (rs : List (Reg L)) (d : D) :
    let T := (notifyList anyL lang beh (some rs) d).trace
    T.map (·.h) <+: (matching anyL lang rs).map (·.h) ∧
    (∀ e ∈ T.dropLast, blocksRet e.ret = false) ∧
    (T.length < (matching anyL lang rs).length →
        ∃ e, T.getLast? = some e ∧ blocksRet e.ret = true) := by
  obtain ⟨h1, h2, _⟩ := C17_ran_exactly anyL lang beh rs d
  simp only [h1]
  refine ⟨h2 ▸ (takeThrough_prefix _ _).map _, takeThrough_dropLast _ _, fun hlt => ?_⟩
  exact takeThrough_short _ _ (by rwa [fullRun_length])

/-- when no call of the statement's run requests blocking, every matching handler is called, in
registration order. -/
theorem C17_all_run_when_nobody_blocks (anyL lang : L) (beh : Beh D) (rs : List (Reg L)) (d : D)
    (h : ∀ e ∈ fullRun beh (matching anyL lang rs) d d, blocksRet e.ret = false) :
    (notifyList anyL lang beh (some rs) d).trace.map (·.h) = (matching anyL lang rs).map (·.h) := by
  obtain ⟨h1, h2, _⟩ := C17_ran_exactly anyL lang beh rs d
  rw [h1, takeThrough_all _ _ h, h2]

/-- **C17 (what each handler sees).**  The k-th call sees as `in_data` the `out_data` left by the
last earlier call whose return was not UNPROCESSED (`None` counts as processed), else the event's
original `in_data`; it sees as `out_data` what the call before it left, else the original `in_data`
(`notify` initialises `out_data` to `in_data`). -/
theorem C17_sees_previous_success (anyL lang : L) (beh : Beh D) (rs : List (Reg L)) (d : D)
    (k : Nat) (e : Entry D)
    (hk : (notifyList anyL lang beh (some rs) d).trace[k]? = some e) :
    let T := (notifyList anyL lang beh (some rs) d).trace
    e.inSeen = (((T.take k).reverse.find? (fun x => processedRet x.ret)).map (·.outLeft)).getD d ∧
    e.outSeen = (((T.take k).getLast?).map (·.outLeft)).getD d := by
  obtain ⟨h1, _, _⟩ := C17_ran_exactly anyL lang beh rs d
  simp only [h1] at hk ⊢
  obtain ⟨hF, htake⟩ := getElem?_take_of_prefix (takeThrough_prefix _ _) k e hk
  exact htake ▸ fullRun_sees beh (matching anyL lang rs) d d k e hF

/-- **C17 (what `notify` leaves in the event).**  `out_data` is what the last call left (the original
`in_data` when nobody ran); `in_data` is what the last call saw, advanced to the `out_data` it left
when it processed the event and did not block. -/
theorem C17_final_data (anyL lang : L) (beh : Beh D) (rs : List (Reg L)) (d : D) :
    let R := notifyList anyL lang beh (some rs) d
    R.outD = ((R.trace.getLast?).map (·.outLeft)).getD d ∧
    R.inD = ((R.trace.getLast?).map finalIn).getD d := by
  intro R
  rw [show R = _ from loop_eq anyL lang beh rs 0 d d rfl]
  exact ⟨rfl, rfl⟩

/-- **C17 (combined return value).**  The value returned by `notify` is the bitwise union of the
normalised returns of the calls made. -/
theorem C17_flags_are_union (anyL lang : L) (beh : Beh D) (rs : List (Reg L)) (d : D) :
    (notifyList anyL lang beh (some rs) d).flags =
      unionNorm ((notifyList anyL lang beh (some rs) d).trace.map (·.ret)) := by
  show (loop anyL lang beh rs 0 d d).flags = unionNorm ((loop anyL lang beh rs 0 d d).trace.map (·.ret))
  rw [loop_eq anyL lang beh rs 0 d d rfl]
  rfl

/-- what a return value contributes: its bits 2, 4, 8, and SUCCESS iff it is non-zero (so bit 16 and
above are dropped, and e.g. a bare STOP_REQUESTERS = 4 contributes 5). -/
theorem C17_norm_closed (r : Nat) :
    norm (some r) = (r &&& 14) ||| (if r = 0 then 0 else 1) := norm_closed r

/-- **C17 (combined return value, documented flags).**  When every handler that ran returned one of
the documented values (UNPROCESSED, or SUCCESS possibly combined with STOP_OTHER_EVENT_HANDLERS,
STOP_REQUESTERS, INTERRUPTION_CALL), the combined value is the plain bitwise union of the returns. -/
theorem C17_flags_union_documented (anyL lang : L) (beh : Beh D) (rs : List (Reg L)) (d : D)
    (h : ∀ e ∈ (notifyList anyL lang beh (some rs) d).trace, documented e.ret = true) :
    (notifyList anyL lang beh (some rs) d).flags =
      unionRaw ((notifyList anyL lang beh (some rs) d).trace.map (·.ret)) := by
  rw [C17_flags_are_union]
  apply unionNorm_eq_unionRaw
  intro r hr
  obtain ⟨e, he, rfl⟩ := List.mem_map.1 hr
  exact h e he

/-- **C17 (combined return value, closed form for arbitrary returns).**  The combined value is the
plain bitwise union of the integer returns restricted to the flags 2, 4, 8, plus SUCCESS iff some
handler that ran returned a non-zero integer. -/
theorem C17_flags_closed_form (anyL lang : L) (beh : Beh D) (rs : List (Reg L)) (d : D) :
    let rets := (notifyList anyL lang beh (some rs) d).trace.map (·.ret)
    (notifyList anyL lang beh (some rs) d).flags =
      (unionRaw rets &&& 14) ||| (anyNonZero rets).toNat := by
  intro rets
  rw [C17_flags_are_union]
  exact unionNorm_closed _

/-- **C17 (only matching handlers run).**  Every call made belongs to a registration of the list
whose language collection contains the event's language or the any-language marker. -/
theorem C17_only_matching_run (anyL lang : L) (beh : Beh D) (rs : List (Reg L)) (d : D) :
    ∀ e ∈ (notifyList anyL lang beh (some rs) d).trace,
      ∃ r ∈ rs, r.h = e.h ∧ (lang ∈ r.langs ∨ anyL ∈ r.langs) := by
  intro e he
  have hpre := (C17_ran_clauses anyL lang beh rs d).1
  have hmem : e.h ∈ (matching anyL lang rs).map (·.h) :=
    hpre.subset (List.mem_map.2 ⟨e, he, rfl⟩)
  obtain ⟨r, hr, hrh⟩ := List.mem_map.1 hmem
  obtain ⟨hr1, hr2⟩ := List.mem_filter.1 hr
  exact ⟨r, hr1, hrh, (C17_matches_iff anyL lang r).1 hr2⟩

/-- **C17 (unknown event).**  For an event that is not a key of the table, `notify` calls nobody,
returns UNPROCESSED and leaves `in_data` (copied to `out_data`); `register` changes nothing (and
warns). -/
theorem C17_unknown_event_noop (anyL lang : L) (beh : Beh D) (t : Table E L) (e : E) (d : D)
    (h : Nat) (la : LangArg L) (hunk : t.get e = none) :
    notify anyL beh t e lang d = { flags := 0, inD := d, outD := d, trace := [] } ∧
    register t e h la = (t, true) := by
  simp [notify, notifyList, register, hunk, UNPROCESSED]

set_option linter.unusedSectionVars false in
/-- **C17 (registration appends).**  Registering for a known event appends `(langs, handler)` at the
end of that event's list — `str` wrapped into a one-element list, other collections kept — and
leaves every other event's list untouched. -/
theorem C17_register_order (t : Table E L) (e : E) (h : Nat) (la : LangArg L) (v : List (Reg L))
    (hk : t.get e = some v) :
    (register t e h la).1.get e = some (v ++ [{ langs := normLangs la, h := h }]) ∧
    (register t e h la).2 = false ∧
    (∀ e', e' ≠ e → (register t e h la).1.get e' = t.get e') := by
  refine ⟨?_, ?_, ?_⟩
  · rw [get_register, if_pos rfl, hk]; rfl
  · simp [register, hk]
  · intro e' he; rw [get_register, if_neg he]

set_option linter.unusedSectionVars false in
/-- **C17 (registration order, whole histories).**  After any sequence of registrations starting from
the constructor's table, the list of a known event is the sequence's registrations for that event,
in the order they were made; an unknown event has no list. -/
theorem C17_register_list_order (keys : List E) (xs : List (E × Nat × LangArg L)) (e : E) :
    (registerList (emptyTable keys) xs).get e =
      if e ∈ keys then some ((xs.filter (fun x => x.1 = e)).map regOf) else none := by
  rw [get_registerList, get_emptyTable]
  split <;> simp

/-- **C17 (end to end).**  Register any sequence `xs`, then raise event `e` with language `lang` and
data `d`: if `e` is a known event, the calls are the statement's run over the registrations of `xs`
for `e` that match `lang`, in the order they were registered, cut after the first blocker, and the
return value is the union of the normalised returns; otherwise nothing happens. -/
theorem C17_main (anyL lang : L) (beh : Beh D) (keys : List E) (xs : List (E × Nat × LangArg L))
    (e : E) (d : D) :
    let R := notify anyL beh (registerList (emptyTable keys) xs) e lang d
    let M := matching anyL lang ((xs.filter (fun x => x.1 = e)).map regOf)
    (e ∈ keys →
      R.trace = takeThrough (fun x => blocksRet x.ret) (fullRun beh M d d) ∧
      R.flags = unionNorm (R.trace.map (·.ret))) ∧
    (e ∉ keys → R = { flags := 0, inD := d, outD := d, trace := [] }) := by
  intro R M
  have hR : R = notifyList anyL lang beh _ d := congrArg (notifyList anyL lang beh · d) (C17_register_list_order keys xs e)
  rw [hR]
  refine ⟨fun he => ?_, fun he => ?_⟩
  · rw [if_pos he]
    exact ⟨(C17_ran_exactly anyL lang beh _ d).1, C17_flags_are_union anyL lang beh _ d⟩
  · rw [if_neg he]; rfl

def regsOf : List (Op E L D) → List (E × Nat × LangArg L)
  | [] => []
  | .reg e h la :: ops => (e, h, la) :: regsOf ops
  | .notify _ _ _ :: ops => regsOf ops

/-- **C17 (histories, table).**  Registrations and notifications may be interleaved; the table after a
history is the table after its registrations alone (notifications never change it). -/
theorem C17_history_table (anyL : L) (beh : Beh D) (ops : List (Op E L D)) :
    ∀ t : Table E L, (runOps anyL beh t ops).1 = registerList t (regsOf ops) := by
  induction ops with
  | nil => intro t; rfl
  | cons op ops ih =>
    intro t
    cases op with
    | reg e h la => exact ih _
    | notify e lang d => exact ih _

/-- **C17 (histories, notifications).**  A notification inside a history is answered from exactly the
registrations made before it (`C17_main` then says what that answer is): later registrations and
earlier notifications have no influence. -/
theorem C17_history_notify (anyL : L) (beh : Beh D) (pre post : List (Op E L D)) (e : E) (lang : L)
    (d : D) : ∀ t : Table E L,
    (runOps anyL beh t (pre ++ .notify e lang d :: post)).2[pre.length]? =
      some (.notify (notify anyL beh (registerList t (regsOf pre)) e lang d)) := by
  induction pre with
  | nil => intro t; simp [runOps, regsOf, registerList]
  | cons op pre ih =>
    intro t
    cases op with
    | reg e' h la =>
      simp only [List.cons_append, runOps, regsOf, registerList, List.length_cons,
        List.getElem?_cons_succ]
      exact ih _
    | notify e' lang' d' =>
      simp only [List.cons_append, runOps, regsOf, List.length_cons, List.getElem?_cons_succ]
      exact ih _

theorem C17_sync_eq (l : Option Nat) (g : Nat) : sync l g = g ||| norm l ∧ norm l < 16 :=
  ⟨sync_eq_or_norm l g, norm_lt l⟩

/-- `sync` on an integer return in closed form, stated for the values below 32 (one undefined bit included);
it holds for all values, by `sync_eq_or_norm` and `norm_closed`. -/
theorem C17_sync_table : ∀ l < 32, ∀ g < 32,
    sync (some l) g = g ||| ((l &&& 14) ||| (if l = 0 then 0 else 1)) :=
  fun l _ g _ => by rw [sync_eq_or_norm, norm_closed]

theorem C17_sync_idem (l : Option Nat) (g : Nat) : sync l (sync l g) = sync l g := by
  simp only [sync_eq_or_norm, Nat.or_assoc, Nat.or_self]

theorem C17_sync_comm (a b : Option Nat) (g : Nat) : sync a (sync b g) = sync b (sync a g) := by
  simp only [sync_eq_or_norm, Nat.or_assoc, Nat.or_comm (norm a)]

theorem C17_sync_mono (l : Option Nat) (g : Nat) : g ||| sync l g = sync l g := by
  simp only [sync_eq_or_norm, ← Nat.or_assoc, Nat.or_self]

theorem C17_sync_range (l : Option Nat) (g : Nat) (hg : g < 16) : sync l g < 16 := by
  rw [sync_eq_or_norm]
  exact Nat.or_lt_two_pow (n := 4) hg (norm_lt l)

/-- why testing the accumulated value stops at the *first* handler that requests blocking -/
theorem C17_block_test (l : Option Nat) (g : Nat) :
    blocksOthers (sync l g) = (blocksOthers g || blocksRet l) := blocksOthers_sync l g

/-! Non-vacuity and quirk witnesses (languages: 0 = "%", 1 = python, 2 = javascript;
handler `h` assigns `out_data = 10 * in_data + h` unless stated otherwise) -/

/-- returns per handler number; handlers 0‥4 assign out_data, handler 5‥ do not -/
def exBeh (rets : List (Option Nat)) : Beh Nat := fun h i o =>
  (rets.getD h (some 0), if h < 5 then 10 * i + h else o)

/-- three matching handlers with a blocker (3 = SUCCESS|STOP_OTHER) in the middle, one non-matching
registration in front: the javascript handler is skipped, the third matching handler never runs, the
second sees the first's out_data, the result is 1 ||| 3. -/
example :
    notifyList 0 1 (exBeh [some 1, some 1, some 3, some 9])
      (some [⟨[2], 0⟩, ⟨[1], 1⟩, ⟨[0], 2⟩, ⟨[1, 2], 3⟩]) 7 =
    { flags := 3, inD := 71, outD := 712,
      trace := [⟨1, 7, 7, some 1, 71⟩, ⟨2, 71, 71, some 3, 712⟩] } := by decide +kernel

/-- quirk: a handler returning `None` sets no flag but its out_data is forwarded (`None != 0`) -/
example :
    notifyList 0 1 (exBeh [none, some 0]) (some [⟨[1], 0⟩, ⟨[1], 1⟩]) 7 =
    { flags := 0, inD := 70, outD := 701,
      trace := [⟨0, 7, 7, none, 70⟩, ⟨1, 70, 70, some 0, 701⟩] } := by decide +kernel

/-- quirk: an UNPROCESSED handler's out_data is not handed over as in_data, but stays in out_data -/
example :
    notifyList 0 1 (exBeh [some 0, some 1]) (some [⟨[1], 0⟩, ⟨[1], 1⟩]) 7 =
    { flags := 1, inD := 71, outD := 71,
      trace := [⟨0, 7, 7, some 0, 70⟩, ⟨1, 7, 70, some 1, 71⟩] } := by decide +kernel

/-- quirk: bit 16 is dropped, a bare STOP_REQUESTERS (4) comes back as 5 -/
example : sync (some 16) 0 = 1 ∧ sync (some 4) 0 = 5 ∧ sync (some 20) 2 = 7 ∧ sync none 6 = 6 := by
  decide +kernel

/-- registration order end to end: two events, an unknown event (9), `str` / set / list forms -/
example :
    (notify 0 (exBeh [some 1, some 1, some 1, some 1])
      (registerList (emptyTable [1, 2])
        [(1, 0, .str 1), (9, 1, .other [0]), (2, 2, .other [0]), (1, 3, .set [2, 0]), (1, 1, .other [2])])
      1 1 5).trace.map (·.h) = [0, 3] := by decide +kernel

example : documented (some 0) = true ∧ documented (some 11) = true ∧ documented (some 4) = false ∧
    documented none = false := by decide +kernel

end LianVerif.C17
