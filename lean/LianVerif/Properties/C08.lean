/-
C08 — Abstract values cover every value a variable actually takes; literal text is only data.

Models: LianVerif/Model/Fold.lean (`fold`, `binStates` = constant folding of the repaired code; `fold0`,
        `binStates0` = pinned commit, frozen), LianVerif/Model/Aref.lean (reference abstract interpreter).
Specs:  LianVerif/Spec/PyStrLit.lean (Python literals / tiny expressions), LianVerif/Spec/Collect.lean
        (concrete collecting semantics).
-/
import LianVerif.Proofs.PyStrLit
import LianVerif.Proofs.Fold
import LianVerif.Proofs.ArefExact

namespace LianVerif.C08
open LianVerif.PyStrLit LianVerif.Fold LianVerif.Aref LianVerif.Collect LianVerif.ArefProofs LianVerif.FoldProofs

/-- What the folded state of two string constants must be when the literal text is only data: Python's
operator applied to the two strings.  No text is built or lexed here. (`%` is refused by the size guard;
a raising operation stores the pseudo-value `s1 op s2` exactly as the code does.) -/
def strFoldSpec (o : Op) (s1 s2 : Str) : Out :=
  if o = .mod then .none
  else
    match pyBinop o (.str s1) (.str s2) with
    | .ok v => if oversized v then .none else if avail (PyVal.toObj v) then .state v .string else .none
    | .err =>
      if oversized (.str (s1 ++ (o.text ++ s2))) then .none else .state (.str (s1 ++ (o.text ++ s2))) .string
    | .unmodelled => .unmodelled

/-- **C08 (literal is data), current code, ALL strings.**  For every two non-empty Python strings —
whatever quotes, backslashes, line breaks, operator characters, `#`, digits or non-printable code
points they contain — and every `isprintable` predicate, the state `compute_two_states` produces is
the one determined by the string *data* alone: the evaluated text `repr(s1) op repr(s2)` is read back
as exactly the two strings. -/
theorem C08_literal_is_data (P : Ch → Bool) (opText : String) (o : Op) (ho : Op.ofString opText = some o)
    (s1 s2 : Str) (h1 : s1 ≠ []) (h2 : s2 ≠ []) (v1 : Valid s1) (v2 : Valid s2) :
    fold P opText ⟨.str s1, .string⟩ ⟨.str s2, .string⟩ = strFoldSpec o s1 s2 := by
  rw [fold_str_str P ho h1 h2, sp, pyEval_repr P o h1 h2 v1 v2]
  rfl

/-- the instance `+` of `C08_literal_is_data`, below the length limit. -/
theorem C08_concat_is_concat (P : Ch → Bool) (s1 s2 : Str) (h1 : s1 ≠ []) (h2 : s2 ≠ [])
    (v1 : Valid s1) (v2 : Valid s2) (hlen : (s1 ++ s2).length ≤ maxStrLen) :
    fold P "+" ⟨.str s1, .string⟩ ⟨.str s2, .string⟩ = .state (.str (s1 ++ s2)) .string := by
  rw [C08_literal_is_data P "+" .add rfl s1 s2 h1 h2 v1 v2]
  have hne : (s1 ++ s2).isEmpty = false := by cases s1 <;> simp_all
  have hov : oversized (.str (s1 ++ s2)) = false := decide_eq_false (Nat.not_lt.2 hlen)
  simp [strFoldSpec, pyBinop, hov, avail, PyVal.toObj, hne]

/-- what the folded state of two integer constants must be when their text is only data: the size guard
(a function of the two numbers), then Python's operator on the two numbers. -/
def intFoldSpec (o : Op) (a b : Int) : Out :=
  match tooLarge o (.int a) (.int b) false with
  | none => .unmodelled
  | some true => .none
  | some false =>
    match pyBinop o (.int a) (.int b) with
    | .ok v => if oversized v then .none else if avail (PyVal.toObj v) then .state v .int else .none
    | .err =>
      if oversized (.str (intStr a ++ (o.text ++ intStr b))) then .none
      else .state (.str (intStr a ++ (o.text ++ intStr b))) .string
    | .unmodelled => .unmodelled

/-- **integer operands, ALL integers.**  The text `(str(a)) op (str(b))` the code evaluates is read back as
exactly the two numbers (decimal printing followed by lexing is the identity; a negative operand stays one
operand thanks to the parentheses): the stored state is determined by the numbers alone. -/
theorem C08_int_text_is_data (P : Ch → Bool) (opText : String) (o : Op) (ho : Op.ofString opText = some o)
    (a b : Int) :
    fold P opText ⟨.int a, .int⟩ ⟨.int b, .int⟩ = intFoldSpec o a b := by
  rw [fold_int_int P ho, pyEval_intText]
  rfl

/-- **integer constants are covered:** when Python's operation on the two numbers has a value, the fold either
refuses (the defined symbol then gets an unknown state) or stores exactly that value. -/
theorem C08_int_fold_covers (P : Ch → Bool) (opText : String) (o : Op) (ho : Op.ofString opText = some o)
    (a b : Int) (v : PyVal) (hv : pyBinop o (.int a) (.int b) = .ok v) :
    fold P opText ⟨.int a, .int⟩ ⟨.int b, .int⟩ = .none ∨
    fold P opText ⟨.int a, .int⟩ ⟨.int b, .int⟩ = .state v .int := by
  rw [C08_int_text_is_data P opText o ho a b]
  unfold intFoldSpec
  cases hg : tooLarge o (Obj.int a) (Obj.int b) false with
  | none => exact absurd hg (tooLarge_int_some o a b)
  | some t =>
    cases t with
    | true => exact Or.inl rfl
    | false =>
      simp only [hv, int_result_avail o a b v hv, if_true]
      by_cases hov : oversized v = true
      · left; simp [hov]
      · right; simp [hov]

example : fold asciiPrintable "-" ⟨.int 3, .int⟩ ⟨.int 5, .int⟩ = .state (.int (-2)) .int := by decide +kernel

/-- the string `" + "x`: folded with `b`, the witness of the quote break-out (`C08_quote_breaks_out`). -/
def wQuote : Str := [34, 32, 43, 32, 34, 120]

-- non-vacuity of `C08_concat_is_concat`, on the witness of the repaired finding
example : fold asciiPrintable "+" ⟨.str wQuote, .string⟩ ⟨.str [98], .string⟩ = .state (.str (wQuote ++ [98])) .string :=
  C08_concat_is_concat asciiPrintable wQuote [98] (by decide) (by decide)
    (by unfold Valid; decide) (by unfold Valid; decide) (by decide)

/-- **Pinned commit, partial.**  The pinned code quotes operands with `f'"{v}"'`: the literal is data only
for strings without a double quote, backslash or line break (and when the first is not all digits). -/
theorem C08_literal_is_data_pinned_partial (opText : String) (o : Op) (ho : Op.ofString opText = some o)
    (s1 s2 : Str) (h1 : s1 ≠ []) (h2 : s2 ≠ []) (p1 : Plain s1) (p2 : Plain s2)
    (hd : isdigit? s1 = some false) :
    fold0 opText ⟨.str s1, .string⟩ ⟨.str s2, .string⟩ =
      match pyBinop o (.str s1) (.str s2) with
      | .ok v => if truthy (PyVal.toObj v) then .state v .string else .none
      | .err => .state (.str (s1 ++ (o.text ++ s2))) .string
      | .unmodelled => .unmodelled := by
  have e1 := List.isEmpty_eq_false_iff.2 h1
  have e2 := List.isEmpty_eq_false_iff.2 h2
  have ht := pyEval_dquoted o h1 h2 p1 p2
  simp only [List.cons_append, List.append_assoc, List.nil_append] at ht
  unfold fold0
  simp [truthy, e1, e2, isBuiltin, ho, pyStr, unprintable, isString0, hd, fallback, sp, ht]
  generalize pyBinop o (PyVal.str s1) (PyVal.str s2) = r
  cases r <;> rfl

-- negative theorems on the frozen model: each witness is in corpus/C08 and replayed on the real code

/-- quote break-out: `a = '" + "x'; b = a + 'b'` folds to `xb`. -/
theorem C08_quote_breaks_out :
    fold0 "+" ⟨.str wQuote, .string⟩ ⟨.str [98], .string⟩ = .state (.str [120, 98]) .string := by decide +kernel

/-- `"12" + "3"` folds to the integer 15. -/
theorem C08_unfixed_digit_strings_are_numbers :
    fold0 "+" ⟨.str [49, 50], .string⟩ ⟨.str [51], .string⟩ = .state (.int 15) .int ∧
    fold asciiPrintable "+" ⟨.str [49, 50], .string⟩ ⟨.str [51], .string⟩ = .state (.str [49, 50, 51]) .string := by
  decide +kernel

/-- `b = 3 - 5; c = b ** 2`: the text `-2 ** 2` evaluates to -4; the repaired code folds 4. -/
theorem C08_unfixed_negative_pow_precedence :
    fold0 "**" ⟨.int (-2), .int⟩ ⟨.str [50], .int⟩ = .state (.int (-4)) .int ∧
    fold asciiPrintable "**" ⟨.int (-2), .int⟩ ⟨.str [50], .int⟩ = .state (.int 4) .int := by decide +kernel

/-- no size guard: the pinned code stores a 4301-digit constant (`10 ** 4300`) … -/
theorem C08_fold_unbounded :
    fold0 "**" ⟨.str [49, 48], .int⟩ ⟨.str [52, 51, 48, 48], .int⟩ = .state (.int (10 ^ 4300)) .int := by
  decide +kernel

/-- … and the next use of that constant raises inside `compute_two_states` (f-string of an int above the
4300-digit limit, outside the `try`): the analysis run aborts.  The repaired code refuses the first fold. -/
theorem C08_unfixed_fold_crashes :
    fold0 "+" ⟨.int (10 ^ 4300), .int⟩ ⟨.str [49], .int⟩ = .crash ∧
    fold asciiPrintable "**" ⟨.str [49, 48], .int⟩ ⟨.str [52, 51, 48, 48], .int⟩ = .none := by decide +kernel

/-- **current code: every stored constant is below the size limits.** -/
theorem C08_fold_bounded (P : Ch → Bool) (opText : String) (s1 s2 : St) (v : PyVal) (dt : DT)
    (h : fold P opText s1 s2 = .state v dt) : oversized v = false := by
  obtain hf | hf | ⟨o, dt', r, hf⟩ := fold_cases P opText s1 s2 <;> rw [hf] at h
  · cases h
  · cases h
  · exact stored_bounded h

/-- **current code: no constant of the analysed program makes `compute_two_states` raise.** -/
theorem C08_fold_never_crashes (P : Ch → Bool) (opText : String) (s1 s2 : St) :
    fold P opText s1 s2 ≠ .crash := by
  obtain hf | hf | ⟨o, dt, r, hf⟩ := fold_cases P opText s1 s2 <;> rw [hf]
  · exact Out.noConfusion
  · exact Out.noConfusion
  · exact stored_ne_crash o _ _ dt r

/-- **current code:** an operand with a non-REGULAR (unknown) state makes the result contain the unknown state. -/
theorem C08_unknown_operand_kept (P : Ch → Bool) (opText : String) (S1 S2 : List AState) (l : List OState)
    (h : binStates P opText S1 S2 = .states l)
    (hu : S1.contains .nonreg = true ∨ (S1.any (· != .nonreg) = true ∧ S2.contains .nonreg = true)) :
    OState.anything ∈ l := by
  obtain ⟨l', _, rfl⟩ := binStates_eq_states.1 h
  have hs : ∀ outs, someSkipped S1 S2 outs = true := by
    intro outs
    unfold someSkipped
    rcases hu with hu | ⟨h1, h2⟩
    · simp only [hu, Bool.true_or]
    · simp only [h1, h2, Bool.and_self, Bool.or_true, Bool.true_or]
  rw [hs, Bool.or_true, if_pos rfl]
  exact List.mem_append_right _ (List.mem_singleton.2 rfl)

/-- pinned: `x ∈ {5, unknown}; y = x - 3` yields `{2}` — the unknown state is dropped. -/
theorem C08_unfixed_unknown_operand_dropped :
    binStates0 "-" [.reg ⟨.str [53], .int⟩, .nonreg] [.reg ⟨.str [51], .int⟩] = .states [.val (.int 2) .int] ∧
    binStates asciiPrintable "-" [.reg ⟨.str [53], .int⟩, .nonreg] [.reg ⟨.str [51], .int⟩] =
      .states [.val (.int 2) .int, .anything] := by decide +kernel

/-- **C08 (soundness), partial: single-object receivers.**  For every sound abstract binary operation, every
program of the fragment (constants, copies, binary operations, if/else, allocation through classes,
field read/write, aliasing by copy, helper calls) all of whose field writes go through a receiver that
denotes exactly one object: every value every definition takes on every execution path is covered by
the abstract value set the reference interpreter reports for that definition — an equal constant, a
state of the object's allocation site, or an explicit unknown. -/
theorem C08_sound_partial (ab : ABin) (hab : ABinSound ab) (P : Prog)
    (hw : WritesOK ab P P.body AEnv.empty) (res : Log) (hrun : run ab P = some res)
    (k : Key) (v : CVal) (hv : Takes P k v) :
    ∃ A, (k, A) ∈ res ∧ covers A v :=
  sound_run ab hab P hw hrun hv

/-- `o = K(1); if d: o.f = 5 else: x = 2; r = o.f`. -/
def wObj : Prog :=
  { classes := [{ name := "K", fields := [("f", none)] }], helpers := [],
    body := .seq (.new "1" "o" "K" (.const (.int 1)))
           (.seq (.ite 0 (.fwrite "o" "f" (.const (.int 5))) (.const "3" "x" (.int 2)))
                 (.fread "4" "r" "o" "f")) }

-- non-vacuity of `C08_sound_partial`: `wObj` with the ideal folding satisfies the hypotheses
example : ∀ k v, Takes wObj k v →
    ∃ A, (k, A) ∈ [("1", [AVal.obj "1"]), ("3", [.const (.int 2)]), ("4", [.const (.int 5), .const (.int 1)])] ∧ covers A v := by
  have hw : WritesOK idealBin wObj wObj.body AEnv.empty := by
    -- `new` asks nothing; after it `o` holds exactly `[.obj "1"]`, the receiver of the one write
    refine ⟨trivial, fun σ1 l1 h1 => ?_⟩
    cases h1
    exact ⟨⟨⟨"1", rfl⟩, trivial⟩, fun _ _ _ => trivial⟩
  exact C08_sound_partial idealBin idealBin_sound wObj hw _ (by decide +kernel)

/-- one decision vector (what the CPython ground truth of the harness executes) is one of the runs. -/
theorem C08_execC_mem_runs (δ : Nat → Bool) (P : Prog) :
    ∀ (p : Prg) (ρ : CEnv) (r : CEnv × CLog), execC δ P p ρ = some r → r ∈ runs P p ρ := by
  intro p
  induction p with
  | skip => intro ρ r h; cases h; exact List.mem_singleton.2 rfl
  | seq a b iha ihb =>
    intro ρ r h
    unfold execC at h
    split at h
    · cases h
    · next r1 h1 =>
      obtain ⟨r2, h2, rfl⟩ := Option.map_eq_some_iff.1 h
      exact mem_runs_seq.2 ⟨r1, iha ρ r1 h1, r2, ihb r1.1 r2 h2, rfl⟩
  | ite i t e iht ihe =>
    intro ρ r h
    unfold execC at h
    split at h
    · exact mem_runs_ite.2 (.inl (iht ρ r h))
    · exact mem_runs_ite.2 (.inr (ihe ρ r h))
  | _ => intro ρ r h; exact Option.mem_toList.2 h

/-
-- OPEN (not proved):
-- theorem C08_sound : the statement of C08_sound_partial without the hypothesis `hw` (false as it stands:
--   `C08_multi_target_write_unsound`) and with `ab := foldBin` instead of an abstract sound `ab` (`ABinSound foldBin`
--   fails on mixed string / integer operands, where both are quoted: `"ab" * 3` stores the pseudo-value `"ab*3"`;
--   for bool operands and %int constants kept as source text the fold is tied by the dense in-process diff only).
-/

/-- `o1 = K(1); o2 = K(2); if d: o3 = o1 else: o3 = o2; o3.f = 5; r = o1.f`. -/
def wMulti : Prog :=
  { classes := [{ name := "K", fields := [("f", none)] }], helpers := [],
    body := .seq (.new "1" "o1" "K" (.const (.int 1)))
           (.seq (.new "2" "o2" "K" (.const (.int 2)))
           (.seq (.ite 0 (.copy "3" "o3" "o1") (.copy "4" "o3" "o2"))
           (.seq (.fwrite "o3" "f" (.const (.int 5)))
                 (.fread "6" "r" "o1" "f")))) }

/-- **negative (open finding C08/multi-target-field-write):** the reference model — which mirrors lian's strong
update of every receiver state, as the correspondence check confirms on every run — reports `r = {5}`,
but the execution with `d` false reads `r = 1`. -/
theorem C08_multi_target_write_unsound :
    (run foldBin wMulti).map (fun res => res.find? (fun p => p.1 = "6")) = some (some ("6", [.const (.int 5)])) ∧
    (execC (fun _ => false) wMulti wMulti.body CEnv.empty).map (fun r => r.2.find? (fun p => p.1 = "6")) =
      some (some ("6", .prim (.int 1))) := by decide +kernel

end LianVerif.C08
