/-
C01 — Lowering Python source to GIR preserves program behaviour.

The negative theorems are witnessed on the model and replayed on the real code by corpus/C01/*.json.
Source semantics: LianVerif/Spec/PySrc.lean (`runProg`).  Lowering model: LianVerif/Model/LowerPy.lean
(`pipeline Cfg.current` = the handlers with the repairs 397a1ee and f44b6a7, `pipeline Cfg.pinned` =
the pinned commit).
Target semantics: LianVerif/Gir/Sem.lean (`runEntry`).
-/
import LianVerif.Proofs.LowerPyStmt

namespace LianVerif.C01
open LianVerif.Gir LianVerif.PySrc LianVerif.LowerPy

/-- **C01, expression handlers, pure fragment** (constants, variables, binary arithmetic and
two-operand comparison, unary operators; `pureFrag`).  For both the current and the pinned handler set
(`cfg`) and every state `σ` of the GIR reference semantics in which lian temporaries are ordinary
locals (`hloc`): if Python's evaluation of `e` (`PySrc.evalE`) yields `v` in `σ'`, the statements lian's
handlers emit for `e` run from `σ` to a state that has `v` in the returned operand and differs from `σ'`
in temporaries only.  (Operand order, operators and statement order are therefore preserved on this
fragment.)  `NoTmp`: the source does not itself use names of the form `%vvN`. -/
theorem C01_lower_expr_partial (cfg : Cfg) (fns : Prog) (e : Expr) (hp : pureFrag e = true) (hnt : NoTmp e)
    (k fuel : Nat) (σ σ' : State) (v : Val)
    (hsrc : evalE fns fuel σ e = (.ok v, σ'))
    (hb : σ.budget = none) (hloc : ∀ n, σ.Loc (tmp n)) :
    ∃ τ, exec ((lowerE cfg e k).1.length + 1) σ (lowerE cfg e k).1 = (.normal, τ) ∧
      τ.evalOpd (lowerE cfg e k).2.1 = .ok v ∧
      τ.heap = σ'.heap ∧ τ.out = σ'.out ∧ τ.env = σ'.env ∧
      ∀ x, (∀ n, x ≠ tmp n) → τ.lookup x = σ'.lookup x := by
  obtain ⟨τ, c⟩ := lowerE_sim cfg fns fuel e hp hnt k hsrc (Sim.refl hb hloc)
  exact ⟨τ, c.steps.exec_eq, c.val, c.sim.obs⟩

def exE : Expr :=
  .bin "<" (.bin "*" (.bin "+" (.name "x") (.const (.int 2))) (.un "-" (.name "y"))) (.const (.int 10))
def exS : State :=
  { heap := [], frames := [{ vars := [("x", some (.int 3)), ("y", some (.int 4))] }], env := [0] }
def okv (r : Res Val) : Option Val :=
  match r with
  | .ok v => some v
  | .error _ => none

/-- Non-vacuity: `(x + 2) * -y < 10` with x = 3, y = 4 is in the fragment, Python evaluates it
(to True), and the four emitted statements compute the same value in `%vv4`. -/
example :
    pureFrag exE = true ∧ okv (evalE [] 10 exS exE).1 = some (.bool true) ∧
    (lowerE Cfg.current exE 0).2.1 = .var "%vv4" ∧ (lowerE Cfg.current exE 0).1.length = 4 ∧
    okv ((exec 5 exS (lowerE Cfg.current exE 0).1).2.lookup "%vv4") = some (.bool true) := by
  decide +kernel

/-- **C01, statement handlers, loop-free and call-free fragment** (`bodyFrag`: assignment and
augmented assignment to a name, expression statement, `pass`, `if`/`else` nested arbitrarily,
`return`, all over pure expressions).  For both handler sets and every state `σ` whose current frame
declares nothing `global`/`nonlocal` (`hloc`): if Python's execution of `B` (`PySrc.execP`) ends normally
or by `return w` in `σ'`, then for some fuel the statements lian's handlers emit for `B` end from `σ`
with the same outcome (same returned value), in a state that differs from `σ'` in temporaries only.
Branch arms, statement order, the read-before-right-hand-side order of augmented assignment and the
`variable_decl`/`assign_stmt` pairs are therefore preserved on this fragment. -/
theorem C01_lower_stmt_partial (cfg : Cfg) (fns : Prog) (B : List PStmt)
    (hf : bodyFrag B = true) (hnt : NoTmpB B) (k fuel : Nat) (σ σ' : State) (o : Outcome)
    (hsrc : execP fns fuel σ B = (o, σ')) (ho : o = .normal ∨ ∃ w, o = .ret w)
    (hb : σ.budget = none) (hloc : ∀ x, σ.Loc x) :
    ∃ τ N, exec N σ (lowerB cfg B k).1 = (o, τ) ∧
      τ.heap = σ'.heap ∧ τ.out = σ'.out ∧ τ.env = σ'.env ∧
      ∀ x, (∀ n, x ≠ tmp n) → τ.lookup x = σ'.lookup x := by
  obtain ⟨τ, hs', hruns⟩ := lowerB_sim cfg fns fuel B hf hnt k hsrc ho (Sim2.refl hb hloc)
  obtain ⟨N, hN⟩ := hruns.exec_eq
  exact ⟨τ, N, hN N (Nat.le_refl N), hs'.obs⟩

/-- `t = x * 2` / `if t > y: t -= y; z = 1` / `else: return t + 1` / `return t - z` -/
def exB : List PStmt :=
  [ .assign "t" (.bin "*" (.name "x") (.const (.int 2))),
    .ifS (.bin ">" (.name "t") (.name "y"))
      [.aug "t" "-" (.name "y"), .assign "z" (.const (.int 1))]
      [.ret (.bin "+" (.name "t") (.const (.int 1)))],
    .ret (.bin "-" (.name "t") (.name "z")) ]

def outv (r : Outcome × State) : Option Val :=
  match r.1 with
  | .ret v => some v
  | _ => none

/-- Non-vacuity: `exB` is in the fragment; with x = 3, y = 4 Python returns 1 through the `if` arm,
and so do the seven top-level statements emitted for it. -/
example :
    bodyFrag exB = true ∧ outv (execP [] 20 exS exB) = some (.int 1) ∧
    (lowerB Cfg.current exB 0).1.length = 7 ∧
    outv (exec 20 exS (lowerB Cfg.current exB 0).1) = some (.int 1) := by
  decide +kernel

-- OPEN (not proved): the full statement of C01 for the modelled fragment,
--   ∀ m : Module in the core fragment minus the open-defect shapes (and/or with an effectful right
--   operand, `continue` in a `while` with a computed condition, a bare-name operand before a call that
--   assigns it), ∀ entry args fuel,
--     runModule fuel m entry args = r  →  r.result ≠ "err:fuel"  →
--     ∃ fuel', runEntry fuel' (pipelineM Cfg.current m) entry args = r
--   i.e. additionally: `while`, calls and parameter binding, `and`/`or`/chains/conditional
--   expressions inside statements, `global`, and the three passes tmpElim / hoist / addMainFunc
--   (C01_tmp_elim_preserves, C01_hoist_preserves, C01_main_func_preserves of DESIGN §5 are not
--   proved; C01_flatten_roundtrip is not stated: flattening is not modelled here, see NOTES-C01.md);
--   and its extension to the whole grammar of the quantifier (containers, keyword/default
--   parameters, nested functions, classes).  Only monitored: LEG 1b of the check compares both sides
--   on every generated fragment program, LEG 3 executes lian's real GIR for the whole grammar
--   against CPython.

/-- `def noisy(v): print(v); return v` / `def entry(x): return x and noisy(1)` -/
def boolProg : Prog :=
  [ { name := "noisy", params := ["v"],
      body := [.exprS (.call "print" [.name "v"]), .ret (.name "v")] },
    { name := "entry", params := ["x"],
      body := [.ret (.boolop "and" (.name "x") (.call "noisy" [.const (.int 1)]))] } ]

/-- **OPEN defect (C01/bool-no-short-circuit), live model.** `0 and noisy(1)`: Python does not call
`noisy`; the GIR lian emits calls it (one output) — same return value, different outputs. -/
theorem C01_bool_not_short_circuit :
    runProg 40 boolProg "entry" [.int 0] = { out := [], result := "ok 0" } ∧
    runEntry 40 (pipeline Cfg.current boolProg) "entry" [.int 0] = { out := ["1"], result := "ok 0" } := by
  decide +kernel

/-- `def entry(n): i = 0; while i < n: i += 1; if i == n: continue; print(i)`, then `return i` -/
def whileProg : Prog :=
  [ { name := "entry", params := ["n"],
      body := [ .assign "i" (.const (.int 0)),
                .whileS (.bin "<" (.name "i") (.name "n"))
                  [ .aug "i" "+" (.const (.int 1)),
                    .ifS (.bin "==" (.name "i") (.name "n")) [.cont] [],
                    .exprS (.call "print" [.name "i"]) ],
                .ret (.name "i") ] } ]

/-- **OPEN defect (C01/while-continue-stale-condition), live model.** With n = 2 Python prints 1 and
returns 2; in the emitted GIR `continue` skips the re-evaluation of the condition, the loop runs once
more: prints 1 and 3, returns 3. -/
theorem C01_while_continue_stale_condition :
    runProg 60 whileProg "entry" [.int 2] = { out := ["1"], result := "ok 2" } ∧
    runEntry 60 (pipeline Cfg.current whileProg) "entry" [.int 2] = { out := ["1", "3"], result := "ok 3" } := by
  decide +kernel

/-- `def entry(x): return 0 < x < 10` -/
def chainProg : Prog :=
  [ { name := "entry", params := ["x"],
      body := [.ret (.cmp3 "<" "<" (.const (.int 0)) (.name "x") (.const (.int 10)))] } ]

/-- **Defect of the pinned commit (C01/chained-comparison), frozen model; repaired by 397a1ee.**
`0 < 20 < 10` is False; the pinned lowering compares the first with the last operand: True.
The current lowering agrees with Python on this input. -/
theorem C01_chained_compare :
    runProg 40 chainProg "entry" [.int 20] = { out := [], result := "ok False" } ∧
    runEntry 40 (pipeline Cfg.pinned chainProg) "entry" [.int 20] = { out := [], result := "ok True" } ∧
    runEntry 40 (pipeline Cfg.current chainProg) "entry" [.int 20] = { out := [], result := "ok False" } := by
  decide +kernel

/-- `def f(): global g; g = 10; return 1` / `def entry(): global g; g += f(); return g` / `g = 2` -/
def augMod : Module :=
  { fns := [ { name := "f", params := [],
               body := [.globalS "g", .assign "g" (.const (.int 10)), .ret (.const (.int 1))] },
             { name := "entry", params := [],
               body := [.globalS "g", .aug "g" "+" (.call "f" []), .ret (.name "g")] } ],
    top := [.assign "g" (.const (.int 2))] }

/-- **Defect of the pinned commit (C01/augassign-rhs-before-target), frozen model; repaired by
f44b6a7.**  `g += f()` with `f` assigning `g`: Python reads `g` (2) before calling `f`: 3.  The pinned
lowering evaluates the call first and reads the target afterwards: 11.  The current lowering copies
the old value to a temporary first and agrees with Python. -/
theorem C01_augassign_order :
    runModule 40 augMod "entry" [] = { out := [], result := "ok 3" } ∧
    runEntry 40 (pipelineM Cfg.pinned augMod) "entry" [] = { out := [], result := "ok 11" } ∧
    runEntry 40 (pipelineM Cfg.current augMod) "entry" [] = { out := [], result := "ok 3" } := by
  decide +kernel

/-- as `augMod`, with `def entry(): return g + f()` -/
def lateMod : Module :=
  { fns := [ { name := "f", params := [],
               body := [.globalS "g", .assign "g" (.const (.int 10)), .ret (.const (.int 1))] },
             { name := "entry", params := [],
               body := [.ret (.bin "+" (.name "g") (.call "f" []))] } ],
    top := [.assign "g" (.const (.int 2))] }

/-- **OPEN defect (C01/name-operand-read-after-later-call), live model.**  `g + f()`: Python reads
`g` (2) before the call: 3.  In the emitted GIR the operand is the *name* `g`, read when the
`assign_stmt` executes, i.e. after the call changed it: 11. -/
theorem C01_name_operand_read_late :
    runModule 40 lateMod "entry" [] = { out := [], result := "ok 3" } ∧
    runEntry 40 (pipelineM Cfg.current lateMod) "entry" [] = { out := [], result := "ok 11" } := by
  decide +kernel

end LianVerif.C01
