/-
C03 — Emitted GIR is structurally well-formed for every input in every language.

Property theorems, non-vacuity examples, negative witnesses and the closed data they speak of.

Models   Gir/Flatten.lean (`flatten` = `GIRProcessing.flatten`), Model/MainFunc.lean (`addMainFunc` =
         `basic.add_main_func`), Model/LangRun.lean (`langRun`, `adjustNodeId` = id allocation in
         `LangAnalysis.run`).
Spec     Gir/WellFormed.lean: `WFUnit` / `WFProject` (all clauses of the property that can be read off
         the emitted rows), `WFCore` (the clauses that do not depend on which operations a frontend
         emits), the grammar `Lvl`.
Checker  `wfCheck` / `wfUnitCheck` (Gir/WellFormed.lean) — what `lvdrv` evaluates on the REAL rows of
         frontend/gir.bundle*.

What is proved, in one paragraph: the checker *decides* the specification (sound and complete);
the three passes, on every `WfGir` tree (a subset of the trees `flatten` accepts), never fail, hand out exactly the ids
`[n, n')` in emission order, produce balanced, properly nested rows whose parents are the innermost
open block / the owning statement, reference every block from its owner, keep body attributes
pointing at owned blocks, leave only declarations at the top level, use two fresh ids for
`%unit_init`, and give different units disjoint, increasing id ranges.  What is NOT proved (it is
monitored on real runs only): that the seven tree-sitter frontends emit `WfGir` trees and never
raise; the clause "executable statements lie inside a method" below the top level, which
`add_main_func` does not establish (negative theorem below, PHP/Java findings).
-/
import LianVerif.Proofs.LangRun
import LianVerif.Proofs.Consumers

namespace LianVerif.C03
open LianVerif.Gir LianVerif.MainFunc LianVerif.LangRun LianVerif.Consumers

/-- **C03 (checker, project level).** `wfCheck` returns `true` exactly on the projects that satisfy
the specification: every unit `WFUnit` and the id ranges of different units pairwise disjoint. -/
theorem C03_checker_sound_complete (P : WfParams) (units : List Rows) :
    wfCheck P units = true ↔ WFProject P units :=
  wfCheck_iff P units

/-- **C03 (checker, unit level).** -/
theorem C03_checker_unit (P : WfParams) (rows : Rows) : wfUnitCheck P rows = true ↔ WFUnit P rows :=
  wfUnitCheck_iff P rows

/-- Soundness spelled out clause by clause: what a `true` verdict on real rows means. -/
theorem C03_checker_sound (P : WfParams) (units : List Rows) (h : wfCheck P units = true) :
    (∀ u ∈ units,
      Lvl (opensMethod P) (ExecOk P) 0 false none u ∧
      (defIds u).Nodup ∧
      (∀ r ∈ u, r.id ≠ 0) ∧
      (∀ r ∈ u, r.isMarker = false → r.parent = 0 → keepsTop P r.op = true) ∧
      (∀ r ∈ u, r.isMarker = false → ∀ kv ∈ r.attrs, bodyKey P kv.1 = true → ∀ b : Int, kv.2 = AVal.int b →
        ∃ s ∈ u, s.isStart = true ∧ (s.id : Int) = b ∧ s.parent = r.id) ∧
      u.Pairwise (fun a b => a.isMarker = false → b.isMarker = false → a.parent = b.parent → a.id < b.id) ∧
      (u.filter (isUnitInit P)).length ≤ 1) ∧
    units.Pairwise RangesDisjoint := by
  have hw := (wfCheck_iff P units).1 h
  refine ⟨fun u hu => ?_, hw.ranges_disjoint⟩
  have := hw.units_wf u hu
  exact ⟨this.nested, this.ids_unique, this.ids_pos, this.top_decl, this.bodies_exist, this.ordered, this.one_init⟩

/-- The grammar really is "balanced markers": in a derivation every start has its end, so the
numbers of start and end markers agree (a consequence used as a sanity check of the definition). -/
theorem C03_lvl_balanced {M : Row → Nat → Bool} {Q : Nat → Bool → Row → Prop} {p : Nat} {inM : Bool}
    {last : Option Row} {rows : Rows} (h : Lvl M Q p inM last rows) :
    (rows.filter (·.isStart)).length = (rows.filter (·.isEnd)).length := by
  simpa [startIds, endIds] using (shape_ends_perm (shape_of_lvl h)).length_eq.symm

/-- **C03 (flatten).** For every start id `n ≥ 1` and every `WfGir` tree (a subset of the trees `flatten` accepts):
`flatten` succeeds and returns a counter `n' > n`; the rows that introduce an id carry exactly
`n, n+1, …, n'-1` in table order (so ids are unique and consecutive, and every id lies in
`[n, n')`); markers are balanced and properly nested, every statement's parent is the innermost
open block, every marker's parent is the owning statement, every block is referenced by an
attribute of its owner (`WFCore.nested`); body-valued attributes name owned blocks; statements of
one block are in increasing id order; and the nesting recogniser without the side condition (`chkShape`) accepts the rows. -/
theorem C03_flatten_wf (P : FlatParams) (bk : String → Bool) (hbk : bk "original_stmt" = false)
    (n : Nat) (hn : 1 ≤ n) (t : JVal) (h : WfGir bk t = true) :
    ∃ n' rows, flatten P n t = .ok (n', rows) ∧ n < n' ∧
      defIds rows = List.range' n (n' - n) ∧
      (∀ r ∈ rows, n ≤ r.id ∧ r.id < n') ∧
      WFCore bk rows ∧
      rows.Pairwise (fun a b => a.isMarker = false → b.isMarker = false → a.parent = b.parent → a.id < b.id) ∧
      chkShape rows = true := by
  obtain ⟨n', rows, hfl, hlt, hseg, hl⟩ := flatten_spec P bk hbk n t h
  exact ⟨n', rows, hfl, hlt, hseg.ids, hseg.bound, hseg.wfCore hn hl, (inc_of_ids hseg.ids).imp IncRel.ord,
    (chkShape_iff rows).2 (lvl_of_shape hl _ _)⟩

/-- **C03 (totality).** On `WfGir` input neither pass reaches an `err:*` result: `flatten` returns
`.ok`, and `addMainFunc` is a total function on rows. -/
theorem C03_total_on_wfgir (P : FlatParams) (bk : String → Bool) (hbk : bk "original_stmt" = false)
    (n : Nat) (t : JVal) (h : WfGir bk t = true) :
    ∃ n' rows, flatten P n t = .ok (n', rows) := by
  obtain ⟨n', rows, hfl, _⟩ := flatten_spec P bk hbk n t h
  exact ⟨n', rows, hfl⟩

/-- **C03 (add_main_func).** On rows satisfying the core clauses, `addMainFunc`
* preserves them (nesting / parents / ownership, unique ids, positive ids, body attributes),
* leaves only rows whose operation ends in `_decl` or is in the exclusion tuple at the top level,
* either changes nothing or adds exactly the two ids `nextId rows` and `nextId rows + 1` (all other
  ids are kept), which are above every id of the input. -/
theorem C03_main_func_wf (P : MainFunc.Params) (bk : String → Bool) (rows : Rows) (h : WFCore bk rows) :
    WFCore bk (addMainFunc P rows) ∧
    (∀ r ∈ addMainFunc P rows, r.isMarker = false → r.parent = 0 → MainFunc.keepsTop P r.op = true) ∧
    (addMainFunc P rows = rows ∨
      (defIds (addMainFunc P rows)).Perm (nextId rows :: (nextId rows + 1) :: defIds rows)) ∧
    (∀ r ∈ rows, r.id < nextId rows) :=
  ⟨addMainFunc_wfCore P bk h, addMainFunc_top_decl P rows, addMainFunc_ids P rows,
   fun _ hr => lt_nextId hr⟩

/-- **C03 (add_main_func, source order).** On a table as `flatten` returns it (top-level level of the
grammar, unique positive ids, increasing in table order) the statements of every block — in
particular the moved top-level statements inside `%unit_init` — still appear in increasing id, i.e.
source, order. -/
theorem C03_main_func_ordered (P : MainFunc.Params) (bk : String → Bool) (rows : Rows) (h : WFCore bk rows)
    (hinc : rows.Pairwise (fun a b => a.isEnd = false → b.isEnd = false → a.id < b.id)) :
    (addMainFunc P rows).Pairwise
      (fun a b => a.isMarker = false → b.isMarker = false → a.parent = b.parent → a.id < b.id) :=
  addMainFunc_ordered P h.shape h.ids_pos h.ids_unique hinc

/-- **C03 (add_main_func, one initialiser).** If the table has no top-level `method_decl` already
called `%unit_init`, the result has at most one. -/
theorem C03_main_func_one_init (P : MainFunc.Params) (W : WfParams) (rows : Rows)
    (hfresh : ∀ r ∈ rows, isUnitInit W r = false) :
    ((addMainFunc P rows).filter (isUnitInit W)).length ≤ 1 :=
  addMainFunc_one_init P W hfresh

/-- the two new ids are `n'` and `n' + 1` when the input is what `flatten` returned with counter `n'` -/
theorem C03_main_func_new_ids (P : FlatParams) (bk : String → Bool) (hbk : bk "original_stmt" = false)
    (n : Nat) (t : JVal) (h : WfGir bk t = true) :
    ∃ n' rows, flatten P n t = .ok (n', rows) ∧ nextId rows = n' := by
  obtain ⟨n', rows, hfl, hlt, hseg, _⟩ := flatten_spec P bk hbk n t h
  exact ⟨n', rows, hfl, hseg.nextId hlt⟩

/-- **C03 (project).** For every list of units whose frontend either raises (the file is then
skipped) or returns a tree that is `WfGir` (or nothing / a falsy value), started
at any counter `n ≥ 1`, with `MIN_ID_INTERVAL ≥ 2`: the run completes; all ids lie in `[n, final)`;
every saved unit (after `add_main_func` and `unit_id` stamping) satisfies the core clauses,
`top_decl` and `ordered`; a unit processed earlier has strictly smaller ids than any unit processed
later — id ranges of different files do not overlap (stated also in the checker's form,
`RangesDisjoint`) and ids are unique across the project.

`_partial`: the full `WFProject` additionally asks `ExecOk` below the top level (not established by
the passes — see the negative theorem) and `one_init` (proved for `addMainFunc` under a row-level
hypothesis, `C03_main_func_one_init`, not transported to trees). -/
theorem C03_project_wf_partial (P : LangRun.Params) (bk : String → Bool)
    (hbk1 : bk "original_stmt" = false) (hbk2 : bk "unit_id" = false) (hI : 2 ≤ P.interval)
    (units : List (Nat × Frontend)) (n : Nat) (hn : 1 ≤ n)
    (hwf : ∀ u ∈ units, ∀ t, u.2 = .gir (some t) → treeFalsy (some t) = false → WfGir bk t = true) :
    ∃ us nf, langRun P n units = .ok (us, nf) ∧ n ≤ nf ∧
      (∀ u ∈ us, ∀ r ∈ u.2, n ≤ r.id ∧ r.id < nf) ∧
      us.Pairwise (fun u v => ∀ a ∈ u.2, ∀ b ∈ v.2, a.id < b.id) ∧
      (us.map (·.2)).Pairwise RangesDisjoint ∧
      (∀ u ∈ us, WFCore bk u.2 ∧
        (∀ r ∈ u.2, r.isMarker = false → r.parent = 0 → MainFunc.keepsTop P.main r.op = true) ∧
        u.2.Pairwise (fun a b => a.isMarker = false → b.isMarker = false → a.parent = b.parent → a.id < b.id)) := by
  obtain ⟨us, nf, h1, h2, h3, h4, h5⟩ := langRun_spec P bk hbk1 hbk2 hI units n hn hwf
  refine ⟨us, nf, h1, h2, h3, h4, ?_, h5⟩
  rw [List.pairwise_map]
  exact h4.imp (fun h => Or.inl h)

-- OPEN (not proved):
--   theorem C03_project_wf : … → WFProject W (us.map (·.2))
-- i.e. additionally, for every saved unit, `one_init` stated on trees (it holds on every run of the
-- correspondence harness; needs the hypothesis that the tree has no top-level `method_decl` already
-- called `%unit_init`, transported through `flatten`), and `Lvl … (ExecOk W)` — which is FALSE for the
-- passes as they are: see `C03_main_func_exec_counterexample`.

/-- the starting counter of a run is ≥ `MIN_ID_INTERVAL` and a multiple of 10, and consecutive units
are at least `MIN_ID_INTERVAL` apart -/
theorem C03_adjust_node_id (i n : Nat) : n + i ≤ adjustNodeId i n ∧ adjustNodeId i n % 10 = 0 :=
  ⟨adjust_ge i n, adjust_mod i n⟩

/-- **C03 (consumers).** On every table satisfying the core clauses (in particular on everything the
checker accepts, `C03_consumers_total_of_check`) the model of the `GIRBlockViewer` constructor
returns without raising, and the model of `DataModel.read_block` finds exactly two rows for the id of
every block. -/
theorem C03_consumers_total (bk : String → Bool) (rows : Rows) (h : WFCore bk rows) :
    viewer rows = .ok () ∧ ∀ s ∈ rows, s.isStart = true → readBlock rows s.id = true :=
  ⟨viewer_ok h.shape h.ids_unique, readBlock_ok h.shape h.ids_unique⟩

/-- whatever the certified checker accepts is safe for the consumers -/
theorem C03_consumers_total_of_check (P : WfParams) (rows : Rows) (h : wfUnitCheck P rows = true) :
    viewer rows = .ok () ∧ ∀ s ∈ rows, s.isStart = true → readBlock rows s.id = true := by
  have hw := (wfUnitCheck_iff P rows).1 h
  have hs := shape_of_lvl hw.nested
  exact ⟨viewer_ok hs hw.ids_unique, readBlock_ok hs hw.ids_unique⟩

/-- a small program: `x = 1` (declaration + assignment), `if x: pass`, `def f(): …` -/
def demoTree : JVal :=
  .list [ .obj [("variable_decl", .obj [("name", .str "x")])],
          .obj [("assign_stmt", .obj [("target", .str "x"), ("operand", .str "1")])],
          .obj [("if_stmt", .obj [("condition", .str "x"),
                 ("then_body", .list [.obj [("pass_stmt", .obj [])]]), ("else_body", .list [])])],
          .obj [("method_decl", .obj [("name", .str "f"), ("body", .list [])])] ]

def W0 : WfParams := {}

example : WfGir (bodyKey W0) demoTree = true := by decide +kernel
example : bodyKey W0 "original_stmt" = false ∧ bodyKey W0 "unit_id" = false := by decide +kernel

-- The witnesses below are given as definitions that compute them, and `Except` gets decidable equality,
-- so that each statement is one closed decidable proposition evaluated once, by the kernel.
deriving instance DecidableEq for Except

def demoRows : Rows :=
  match flatten {} 120 demoTree with
  | .ok (_, rows) => rows
  | .error _ => []

/-- the rows of the `i`-th unit saved by a run over `demoTree`, a unit without GIR, and `demoTree` again -/
def demoUnit (i : Nat) : Rows :=
  match langRun {} 120 [(100, .gir (some demoTree)), (101, .gir none), (102, .gir (some demoTree))] with
  | .ok (us, _) => (us.getD i default).2
  | .error _ => []

/-- the hypotheses of `C03_flatten_wf` are satisfiable and its conclusion is about a real table:
9 rows, ids 120…126, next counter 127 -/
example : ∃ rows, flatten {} 120 demoTree = .ok (127, rows) ∧ rows.length = 9 ∧
    defIds rows = [120, 121, 122, 123, 124, 125, 126] ∧ wfUnitCheck W0 rows = false ∧
    wfUnitCheck W0 (addMainFunc {} rows) = true :=
  ⟨demoRows, by decide +kernel⟩

/-- the consumer models accept that table and reject a table with a missing `block_end` -/
example : ∃ rows, flatten {} 120 demoTree = .ok (127, rows) ∧ viewer (addMainFunc {} rows) = .ok () ∧
    viewer ((addMainFunc {} rows).dropLast) = .error .unclosed ∧
    readBlock (addMainFunc {} rows) 128 = true ∧ readBlock ((addMainFunc {} rows).dropLast) 128 = false :=
  ⟨demoRows, by decide +kernel⟩

/-- the checker accepts and rejects: dropping the last `block_end` of the table above is rejected -/
example : ∃ rows, flatten {} 120 demoTree = .ok (127, rows) ∧
    unitFailures W0 ((addMainFunc {} rows).dropLast) = ["nested"] :=
  ⟨demoRows, by decide +kernel⟩

/-- two units in one run get disjoint ranges: 120…128 and 150…158 (the unit without GIR still advances the counter) -/
theorem demoRun : ∃ u1 u2, langRun {} 120 [(100, .gir (some demoTree)), (101, .gir none), (102, .gir (some demoTree))] =
      .ok ([(100, u1), (102, u2)], 170) ∧ wfCheck W0 [u1, u2] = true ∧
      idRange u1 = some (120, 128) ∧ idRange u2 = some (150, 158) :=
  ⟨demoUnit 0, demoUnit 1, by decide +kernel⟩

example : ∃ u1 u2, langRun {} 120 [(100, .gir (some demoTree)), (101, .gir none), (102, .gir (some demoTree))] =
      .ok ([(100, u1), (102, u2)], 170) ∧ wfCheck W0 [u1, u2] = true ∧
      idRange u1 = some (120, 128) ∧ idRange u2 = some (150, 158) :=
  demoRun

/-- PHP `namespace A { $x = 1; }`: an executable statement inside the body of a top-level
declaration. -/
def namespaceTree : JVal :=
  .list [ .obj [("namespace_decl", .obj [("name", .str "A"),
            ("body", .list [.obj [("assign_stmt", .obj [("target", .str "$x"), ("operand", .str "1")])]])])] ]

def namespaceRows : Rows :=
  match flatten {} 120 namespaceTree with
  | .ok (_, rows) => rows
  | .error _ => []

/-- **`add_main_func` does not establish "every executable statement lies inside a method".**
The tree is `WfGir`, the passes succeed and every other clause holds, but the `assign_stmt` stays
in the block of the top-level `namespace_decl` — in no method and no initialiser block.  (Real code:
corpus/C03/php_namespace_body.json; known finding C03/php-namespace-body-outside-method.) -/
theorem C03_main_func_exec_counterexample :
    WfGir (bodyKey W0) namespaceTree = true ∧
    flatten {} 120 namespaceTree = .ok (123, namespaceRows) ∧
    namespaceRows.length = 4 ∧
    addMainFunc {} namespaceRows = namespaceRows ∧
    unitFailures W0 (addMainFunc {} namespaceRows) = ["exec_in_method"] ∧
    ¬ WFUnit W0 (addMainFunc {} namespaceRows) := by
  decide +kernel

/-- **The pinned commit loses the whole project when one frontend call raises** (frozen model
`langRun0`): three units, the second one raises `AttributeError` (real code: any TypeScript file with
`this.x = y`, corpus/C03/project_with_bad_file.json) — the run ends with that exception and no unit
has GIR.  `langRun` (the code with the `fix:` commit) skips the file, and the two
other units are well-formed with disjoint id ranges. -/
theorem C03_unfixed_counterexample_frontend_exception :
    langRun0 {} 120 [(100, .gir (some demoTree)), (101, .raised "AttributeError"), (102, .gir (some demoTree))]
      = .error (.exn "AttributeError") ∧
    ∃ u1 u2, langRun {} 120 [(100, .gir (some demoTree)), (101, .raised "AttributeError"), (102, .gir (some demoTree))]
      = .ok ([(100, u1), (102, u2)], 170) ∧ wfCheck W0 [u1, u2] = true := by
  obtain ⟨u1, u2, h, hw, -⟩ := demoRun
  refine ⟨?_, u1, u2, ?_, hw⟩
  · decide +kernel
  · simpa only [langRun, langRunWith, unitRun_raised] using h

/-- **Latent defect of `flatten_stmt` (kept in the model): the bare `return` after
`if not isinstance(stmt_content, dict)` returns `None`, so a statement without attribute dict
followed by an `assign_stmt` / `call_stmt` raises `TypeError`.**  No frontend was seen to emit such a
pair, which is why `WfGir` excludes statements without attribute dict instead of the code being
changed. -/
theorem C03_flatten_bare_return_typeerror :
    flatten {} 120 (.list [.obj [("call_stmt", .null)], .obj [("call_stmt", .null)]]) =
      .error (.exn "TypeError") := by
  decide +kernel

end LianVerif.C03
