/-
C04 — Every concrete execution of a method is a path in its control-flow graph.

`path_of_run` turns a chain of links (what `Proofs/Ctl.lean` and `Proofs/CfgSound.lean` prove of a run) into
a path of an edge list.
Model:  LianVerif/Model/Cfg.lean  (`cfg Q.live` = the code after the `fix:` commits, `cfg Q.pinned` = pinned commit).
Spec:   LianVerif/Spec/Ctl.lean   (control-skeleton runs `runCtl`, required edges `req`, monitor `cfgCheck`).
-/
import LianVerif.Proofs.Ctl
import LianVerif.Proofs.CfgSound

namespace LianVerif.C04
open LianVerif.Cfg

/-- consecutive steps are edges of `E` (or the same statement repeated) -/
def IsPath (E : List (Int × Int)) : List Int → Prop
  | [] => True
  | [_] => True
  | a :: b :: t => hasE E a b = true ∧ IsPath E (b :: t)

/-- the link relation the main lemma is instantiated with: the first step is an entry of the method,
and an edge is only demanded of a supported source -/
def SupLink (params body : S) (E : List (Int × Int)) : Option Int → Int → Prop
  | none, b => b ∈ entries params body
  | some a, b => supported params body E a = true → hasE E a b = true

theorem supported_of_entry {params body : S} {E : List (Int × Int)} {a : Int} (ha : a ∈ entries params body) :
    supported params body E a = true := by
  simp only [supported, Bool.or_eq_true, List.contains_iff_mem]
  exact Or.inl ha

theorem supported_of_edge {params body : S} {E : List (Int × Int)} {a b : Int}
    (ha : supported params body E a = true) (h : hasE E a b = true) : supported params body E b = true := by
  unfold hasE at h
  simp only [Bool.or_eq_true, beq_iff_eq, List.contains_iff_mem] at h
  rcases h with h | h
  · subst h; exact ha
  · unfold supported
    simp only [Bool.or_eq_true, List.any_eq_true, beq_iff_eq]
    exact Or.inr ⟨(a, b), h, rfl⟩

/-- `P`: an invariant of the steps under which links are edges (`True`, or "the source is supported") -/
theorem path_of_chain {E : List (Int × Int)} {L : Option Int → Int → Prop} {P : Int → Prop}
    (h0 : ∀ x, L none x → P x) (hL : ∀ a b, L (some a) b → P a → hasE E a b = true ∧ P b) :
    ∀ (t : List Int) (a : Option Int), (∀ x, a = some x → P x) → chainO L a t →
      IsPath E (a.toList ++ t) ∧ ∀ y, lastO a t = some y → P y
  | [], a, ha, _ => ⟨by cases a <;> trivial, ha⟩
  | y :: t, none, _, h => path_of_chain h0 hL t (some y) (fun _ hx => Option.some.inj hx ▸ h0 y h.1) h.2
  | y :: t, some x, ha, h =>
    have hxy := hL x y h.1 (ha x rfl)
    have ht := path_of_chain h0 hL t (some y) (fun _ hx => Option.some.inj hx ▸ hxy.2) h.2
    ⟨⟨hxy.1, ht.1⟩, ht.2⟩

theorem path_of_run {E : List (Int × Int)} {L : Option Int → Int → Prop} {P : Int → Prop}
    {Φ : Out → Option Int → Prop} {r : Res}
    (h0 : ∀ x, L none x → P x) (hL : ∀ a b, L (some a) b → P a → hasE E a b = true ∧ P b)
    (hΦ : ∀ out x, out = .normal ∨ out = .ret → Φ out (some x) → P x → hasE E x (-1) = true)
    (h : Run L none r Φ) :
    IsPath E r.tr ∧
    ((r.out = .normal ∨ r.out = .ret) → ∀ x, r.tr.getLast? = some x → hasE E x (-1) = true) := by
  obtain ⟨hp, hl⟩ := path_of_chain h0 hL r.tr none nofun h.1
  refine ⟨hp, fun hfin x hx => ?_⟩
  rw [← lastO_none_getLast?] at hx
  exact hΦ _ x hfin (hx ▸ h.2 (by rcases hfin with h | h <;> simp [h])) (hl x hx)

/-- **C04, certified monitor.**  If `cfgCheck` accepts the edge list `E` for a method, then for every
fuel and every oracle the control-skeleton run of the method
(1) is a path of `E` (consecutive distinct statements are edges),
(2) starts at an entry node: a possible first step of the method with no incoming edge,
(3) when it terminates (normally or by `return`) ends with an edge to the exit node `-1`. -/
theorem cfgCheck_sound (params body : S) (E : List (Int × Int)) (h : cfgCheck params body E = true)
    (n : Nat) (o : List Bool) :
    IsPath E (runCtl n params body o).tr ∧
    (∀ x, (runCtl n params body o).tr.head? = some x →
        x ∈ entries params body ∧ (x ≠ -1 → ∀ e ∈ E, e.2 ≠ x)) ∧
    (((runCtl n params body o).out = .normal ∨ (runCtl n params body o).out = .ret) →
        ∀ x, (runCtl n params body o).tr.getLast? = some x → hasE E x (-1) = true) := by
  unfold cfgCheck at h
  simp only [Bool.and_eq_true, List.isEmpty_iff] at h
  obtain ⟨⟨hmiss, hbad⟩, _⟩ := h
  have hreq : Holds (SupLink params body E) (reqM params body) := by
    intro e he hs
    have := List.filter_eq_nil_iff.1 hmiss e he
    simpa [hs] using this
  have hrun := run_post params body hreq none (fun _ hj => hj) n o
  obtain ⟨hp, hexit⟩ := path_of_run (P := fun x => supported params body E x = true) (fun _ => supported_of_entry)
    (fun _ _ h hs => ⟨h hs, supported_of_edge hs (h hs)⟩)
    (fun out _ hfin hpost => hpost (-1) (by rcases hfin with h | h <;> simp [h, K.sel, K0])) hrun
  refine ⟨hp, fun x hx => ?_, hexit⟩
  have hxe : x ∈ entries params body :=
    match (runCtl n params body o).tr, hrun.1, hx with
    | _ :: _, hch, rfl => hch.1
  have hin : x ≠ -1 → ∀ e ∈ E, e.2 ≠ x := by
    simpa only [Bool.and_eq_true, bne_iff_ne, ne_eq, List.any_eq_true, beq_iff_eq, not_and,
      not_exists] using List.filter_eq_nil_iff.1 hbad x hxe
  exact ⟨hxe, hin⟩

/-- **C04, nodes.**  If `cfgCheck` accepts `E`, every node of `E` is a statement of this method
(parameters or body, not inside a nested declaration) or the exit node. -/
theorem cfgCheck_nodes (params body : S) (E : List (Int × Int)) (h : cfgCheck params body E = true) :
    ∀ e ∈ E, (e.1 = -1 ∨ e.1 ∈ ids params ++ ids body) ∧ (e.2 = -1 ∨ e.2 ∈ ids params ++ ids body) := by
  unfold cfgCheck at h
  simp only [Bool.and_eq_true, List.isEmpty_iff] at h
  obtain ⟨_, hf⟩ := h
  unfold foreign at hf
  intro e he
  have h1 := List.filter_eq_nil_iff.1 hf e.1 (List.mem_append.2 (Or.inl (List.mem_map.2 ⟨e, he, rfl⟩)))
  have h2 := List.filter_eq_nil_iff.1 hf e.2 (List.mem_append.2 (Or.inr (List.mem_map.2 ⟨e, he, rfl⟩)))
  simp only [Bool.not_eq_true', Bool.not_eq_false, List.contains_iff_mem, List.mem_cons] at h1 h2
  exact ⟨h1, h2⟩

def decIsPath (E : List (Int × Int)) : (t : List Int) → Decidable (IsPath E t)
  | [] => .isTrue trivial
  | [_] => .isTrue trivial
  | a :: b :: t =>
    match decIsPath E (b :: t) with
    | .isTrue h =>
      if h2 : hasE E a b = true then .isTrue ⟨h2, h⟩ else .isFalse (fun h' => h2 h'.1)
    | .isFalse h => .isFalse (fun h' => h h'.2)

instance (E : List (Int × Int)) (t : List Int) : Decidable (IsPath E t) := decIsPath E t

def edgesOf : Result → List (Int × Int)
  | .ok es => edgePairs es
  | .error _ => []

/-! ### Defects of the pinned commit (`cfg Q.pinned`), each with the repaired behaviour.
Every witness has one parameter, so that the entry clause is not what fails. -/

def p1 : S := .simple 1 .nil

/-- JS `for (i=0; i<n; i++) { if (c) continue; s; }` -/
def wForCont : S :=
  .forS 12 false (.simple 14 .nil) (.simple 16 .nil) (.simple 18 .nil)
    (.ifS 20 (.cont 22 .nil) .nil (.simple 23 .nil)) (.simple 24 .nil)

/-- **negative, pinned.** `continue` inside `for_stmt`: the run …, continue(22), update(18), … is not a
path — the pinned builder has `continue → for_stmt` only. -/
theorem C04_for_continue_unsound :
    (runCtl 20 p1 wForCont [true, true, false]).tr = [1, 14, 16, 12, 20, 22, 18, 16, 12, 24] ∧
    ¬ IsPath (edgesOf (cfg Q.pinned p1 wForCont)) (runCtl 20 p1 wForCont [true, true, false]).tr ∧
    missing p1 wForCont (edgesOf (cfg Q.pinned p1 wForCont)) = [(22, 18)] := by decide +kernel

theorem C04_for_continue_fixed : cfgCheck p1 wForCont (edgesOf (cfg Q.live p1 wForCont)) = true := by decide +kernel

/-- Java `while (i < n) { s; } return` — `condition_prebody` = [14] -/
def wPre : S := .whileS 12 false (.simple 14 .nil) (.simple 16 .nil) .nil (.ret 17 .nil)

/-- **negative, pinned.** The prebody statement 14 executes before every test but is not a CFG node. -/
theorem C04_while_prebody_missing :
    (runCtl 20 p1 wPre [true, false]).tr = [1, 14, 12, 16, 14, 12, 17] ∧
    ¬ IsPath (edgesOf (cfg Q.pinned p1 wPre)) (runCtl 20 p1 wPre [true, false]).tr ∧
    (∀ e ∈ edgesOf (cfg Q.pinned p1 wPre), e.1 ≠ 14 ∧ e.2 ≠ 14) := by decide +kernel

theorem C04_while_prebody_fixed : cfgCheck p1 wPre (edgesOf (cfg Q.live p1 wPre)) = true := by decide +kernel

/-- Python `while True: s` + `else: t` -/
def wTrueElse : S := .whileS 12 true .nil (.simple 14 .nil) (.simple 16 .nil) (.simple 17 .nil)

/-- **negative, pinned.** `last_stmts.pop()` on an empty list: IndexError escapes `analyze()`. -/
theorem C04_while_true_else : cfg Q.pinned p1 wTrueElse = .error 1 := by decide +kernel

theorem C04_while_true_else_fixed :
    cfgCheck p1 wTrueElse (edgesOf (cfg Q.live p1 wTrueElse)) = true := by decide +kernel

/-- Python `while c: (while d: s else: break); t` then `u` -/
def wElseBreak : S :=
  .whileS 12 false .nil
    (.whileS 14 false .nil (.simple 16 .nil) (.brk 18 .nil) (.simple 19 .nil)) .nil (.simple 20 .nil)

/-- **negative, pinned.** A `break` in the else clause of the inner loop leaves the outer loop; the
pinned builder drops it (no out-edge at all). -/
theorem C04_while_else_break_lost :
    (runCtl 20 p1 wElseBreak [true, false]).tr = [1, 12, 14, 18, 20] ∧
    ¬ IsPath (edgesOf (cfg Q.pinned p1 wElseBreak)) (runCtl 20 p1 wElseBreak [true, false]).tr ∧
    (∀ e ∈ edgesOf (cfg Q.pinned p1 wElseBreak), e.1 ≠ 18) := by decide +kernel

theorem C04_while_else_break_fixed :
    cfgCheck p1 wElseBreak (edgesOf (cfg Q.live p1 wElseBreak)) = true := by decide +kernel

/-- JS `switch (x) { case 1: s; break; }` then `t`, no default -/
def wSwNoDflt : S :=
  .switchS 12 true (.caseS 14 false (.simple 16 (.brk 17 .nil)) .nil) (.simple 18 .nil)

/-- **negative, pinned.** No case matches: the run switch(12), 18 has no edge. -/
theorem C04_switch_no_default :
    (runCtl 20 p1 wSwNoDflt [false]).tr = [1, 12, 18] ∧
    ¬ IsPath (edgesOf (cfg Q.pinned p1 wSwNoDflt)) (runCtl 20 p1 wSwNoDflt [false]).tr := by decide +kernel

theorem C04_switch_no_default_fixed :
    cfgCheck p1 wSwNoDflt (edgesOf (cfg Q.live p1 wSwNoDflt)) = true := by decide +kernel

/-- JS `while (c) { switch (x) { case 1: continue; } s; }` then `t` -/
def wSwCont : S :=
  .whileS 12 false .nil
    (.switchS 14 true (.caseS 16 false (.cont 18 .nil) .nil) (.simple 19 .nil)) .nil (.simple 20 .nil)

/-- **negative, pinned.** `continue` in a case body is wired to the statement after the switch
(18 → 19), not to its loop (18 → 12). -/
theorem C04_switch_continue :
    (runCtl 20 p1 wSwCont [true, true, false]).tr = [1, 12, 14, 16, 18, 12, 20] ∧
    ¬ IsPath (edgesOf (cfg Q.pinned p1 wSwCont)) (runCtl 20 p1 wSwCont [true, true, false]).tr ∧
    (18, 19) ∈ edgesOf (cfg Q.pinned p1 wSwCont) := by decide +kernel

theorem C04_switch_continue_fixed : cfgCheck p1 wSwCont (edgesOf (cfg Q.live p1 wSwCont)) = true := by decide +kernel

/-- JS `if (c) {}` then `s; return` -/
def wEmptyIf : S := .ifS 12 .nil .nil (.simple 13 (.ret 14 .nil))

/-- **negative, pinned.** A compound statement without blocks stops the enclosing block: 13 and 14
are not in the CFG. -/
theorem C04_empty_body_truncates :
    (runCtl 20 p1 wEmptyIf [true]).tr = [1, 12, 13, 14] ∧
    ¬ IsPath (edgesOf (cfg Q.pinned p1 wEmptyIf)) (runCtl 20 p1 wEmptyIf [true]).tr ∧
    edgesOf (cfg Q.pinned p1 wEmptyIf) = [(1, 12), (12, -1)] := by decide +kernel

theorem C04_empty_body_fixed : cfgCheck p1 wEmptyIf (edgesOf (cfg Q.live p1 wEmptyIf)) = true := by decide +kernel

/-- TypeScript `class K { static q = 1 }` inside a function -/
def wSinit : S := .classS 12 true (.simple 14 .nil) .nil .nil .nil (.simple 15 .nil)

/-- **negative, pinned.** The bare class_decl row is iterated as a list of parents: TypeError. -/
theorem C04_class_static_init_crash : cfg Q.pinned p1 wSinit = .error 2 := by decide +kernel

theorem C04_class_static_init_fixed : cfgCheck p1 wSinit (edgesOf (cfg Q.live p1 wSinit)) = true := by decide +kernel

/-! ### Open findings: the repaired code (`cfg Q.live`) violates the property. -/

/-- `try { s; t } catch { u }` then `v` -/
def wTry : S :=
  .tryS 12 (.simple 14 (.simple 15 .nil)) (.clause 17 (.simple 19 .nil) .nil) .nil .nil (.simple 20 .nil)

/-- **negative, current code.** A raise at the non-last statement 14 of a try body: 14 → catch(17) is
not an edge; only the last statement 15 is linked to the clause. -/
theorem C04_try_midbody :
    (runCtl 20 p1 wTry [true]).tr = [1, 12, 14, 17, 19, 20] ∧
    ¬ IsPath (edgesOf (cfg Q.live p1 wTry)) (runCtl 20 p1 wTry [true]).tr ∧
    missing p1 wTry (edgesOf (cfg Q.live p1 wTry)) = [(14, 17)] := by decide +kernel

/-- Python `match x: case 1: s` `case _: t` then `u` (`ft = false`) -/
def wMatch : S :=
  .switchS 12 false (.caseS 14 false (.simple 16 .nil) (.caseS 17 true (.simple 19 .nil) .nil)) (.simple 20 .nil)

/-- **negative, current code.** Python `match` has no fall-through: after the body of case 1 comes 20,
but the CFG has 16 → 19 (fall-through) and no 16 → 20. -/
theorem C04_match_case_exit :
    (runCtl 20 p1 wMatch [true]).tr = [1, 12, 14, 16, 20] ∧
    ¬ IsPath (edgesOf (cfg Q.live p1 wMatch)) (runCtl 20 p1 wMatch [true]).tr ∧
    missing p1 wMatch (edgesOf (cfg Q.live p1 wMatch)) = [(16, 20)] := by decide +kernel

/-- a method without parameters whose first statement is `while c: s` -/
def wLoopFirst : S := .whileS 12 false .nil (.simple 14 .nil) .nil .nil

/-- **negative, current code.** The first step 12 has an incoming edge (the loop-back 14 → 12), so the
entry clause fails (`badEntries`) though no required edge is missing.  The graph of this witness is
12 → 14, 14 → 12, 12 → -1: no node has in-degree 0, which is where lian's analyses start. -/
theorem C04_entry_loop_head :
    (runCtl 20 .nil wLoopFirst [false]).tr.head? = some 12 ∧
    (14, 12) ∈ edgesOf (cfg Q.live .nil wLoopFirst) ∧
    badEntries .nil wLoopFirst (edgesOf (cfg Q.live .nil wLoopFirst)) = [12] ∧
    missing .nil wLoopFirst (edgesOf (cfg Q.live .nil wLoopFirst)) = [] := by decide +kernel

/-- **C04_sound (partial: fragment F₀, path and exit clauses).**  For every method whose parameter
block and body are in F₀ = { simple statements, nested method declarations, if/else,
while/forin/for_value without condition_prebody (with else, with literal-true condition), dowhile
without condition_prebody, for_stmt whose condition_prebody/update_body are straight-line
(including `continue` bound to it), break, continue, return }, the graph the repaired builder model
computes contains every control-skeleton run: consecutive distinct statements are edges, and a run
that ends normally or by `return` ends with an edge to the exit node `-1`.

Not proved: the same for the rest of `S` — try/catch (unsound: `C04_try_midbody`), switch, class
declarations, condition_prebody of while/dowhile — and the entry clause, which is false
(`C04_entry_loop_head`). -/
theorem C04_sound_partial (params body : S) (hp : inF0 params = true) (hb : inF0 body = true)
    (es : List Edge) (h : cfg Q.live params body = .ok es) (n : Nat) (o : List Bool) :
    IsPath (edgePairs es) (runCtl n params body o).tr ∧
    (((runCtl n params body o).out = .normal ∨ (runCtl n params body o).out = .ret) →
        ∀ x, (runCtl n params body o).tr.getLast? = some x → hasE (edgePairs es) x (-1) = true) := by
  simp only [cfg] at h
  split at h
  · cases h
  · simp only [Result.ok.injEq] at h
    subst h
    have hall : HasE (fun x y => hasE (edgePairs (build (emitted Q.live params body).es)) x y = true) _ :=
      build_has _
    refine path_of_run (P := fun _ => True) (fun _ _ => trivial) (fun _ _ h _ => ⟨h, trivial⟩)
      (fun out x hfin hc _ => ?_) (run_sim params body hp hb hall n o)
    rcases hfin with rfl | rfl
    · obtain ⟨f, hf, hfx⟩ := hc
      exact hfx ▸ hall _ (List.mem_append_right _ (List.mem_map_of_mem hf))
    · obtain ⟨y, hy, hR⟩ := hc
      exact Option.some.inj hy ▸ hR

/-- non-vacuity: the for+continue witness is in F₀ and its model graph exists -/
example : inF0 p1 = true ∧ inF0 wForCont = true ∧ (∃ es, cfg Q.live p1 wForCont = .ok es) := by
  refine ⟨by decide, by decide, ?_⟩
  exact ⟨_, rfl⟩

/-! ### Non-vacuity of `cfgCheck_sound`: an accepted CFG of a method that uses every construct, and a
long run of it. -/

def wAll : S :=
  .simple 10 <| .ifS 11 (.simple 12 .nil) (.ret 13 .nil) <|
  .whileS 14 false (.simple 15 .nil) (.ifS 16 (.cont 17 .nil) (.brk 18 .nil) .nil) .nil <|
  .doS 20 false (.simple 21 .nil) (.simple 22 .nil) <|
  .forS 23 false (.simple 24 .nil) (.simple 25 .nil) (.simple 26 .nil)
    (.switchS 27 true (.caseS 28 false (.cont 29 .nil) (.caseS 30 true (.simple 31 (.brk 32 .nil)) .nil)) .nil) <|
  .classS 33 true .nil .nil (.decl 34 .nil) .nil <|
  .tryS 35 (.simple 36 .nil) (.clause 37 (.simple 38 .nil) (.clause 39 .nil .nil)) (.simple 40 .nil) (.simple 41 .nil) <|
  .ret 42 .nil

example : cfgCheck p1 wAll (edgesOf (cfg Q.live p1 wAll)) = true ∧ wfCtl p1 wAll = true := by
  decide +kernel

example :
    (runCtl 60 p1 wAll [true, true, true, false, false, true, true, false, true, false]).out = .ret ∧
    (runCtl 60 p1 wAll [true, true, true, false, false, true, true, false, true, false]).tr =
      [1, 10, 11, 12, 15, 14, 16, 17, 15, 14, 21, 22, 20, 24, 25, 23, 27, 28, 29, 26, 25, 23, 33, 34,
        35, 36, 39, 41, 42] := by
  decide +kernel

end LianVerif.C04
