/-
C16 — Table queries always reflect the table's current contents.

Model: LianVerif/Model/Table.lean (`current` = the code in /repo, `pinned` = the pinned commit, frozen),
       LianVerif/Model/Frame.lean (pandas reference definitions, trusted base).
Spec:  LianVerif/Spec/Scan.lean (the table is its frame; every query is a scan).
-/
import LianVerif.Proofs.Table
import LianVerif.Proofs.TableAlias
import LianVerif.Proofs.ScanWF
import LianVerif.Proofs.BlockView

namespace LianVerif.C16
open LianVerif.Table LianVerif.Scan

/-- **C16 (refinement).** For every constructor and every sequence of public `DataModel` calls
(queries, mutations, derived tables that become the table under test, switching between a table and
the table it was derived from, appending one to the other) the repaired `DataModel` returns, call by
call, exactly what a scan of the current frame returns, and holds after every call exactly the frame
the reference semantics prescribes. -/
theorem C16_refines (c : Ctor) (ops : List WOp) :
    (run current (init current c) ops).2 = (specRun (specInit c) ops).2 :=
  (run_refines ops _ _ (init_sim c)).1

/-- every reachable state satisfies the cache invariant, over the frames the specification reaches -/
theorem C16_reachable_consistent (c : Ctor) (ops : List WOp) :
    WSim (run current (init current c) ops).1 (specRun (specInit c) ops).1 :=
  (run_refines ops _ _ (init_sim c)).2

/-- **C16 (positions are valid).** In every reachable state, whatever positions the equality query or
the block-boundary query returns are positions of the current table. -/
theorem C16_positions_valid (c : Ctor) (ops : List WOp) (col : String) (v : Cell) :
    let t := (run current (init current c) ops).1.cur
    (∀ l, (step current t (.queryIdx col v)).2.1 = .positions l → ∀ p ∈ l, p < t.data.rows.length) ∧
    (∀ l, (step current t (.searchBlock v)).2.1 = .positions l → ∀ p ∈ l, p < t.data.rows.length) :=
  positions_valid (reachable_cached c ops) col v

/-- **C16 (no stale position ever reaches `iloc`).** In every reachable state the table-valued and
the first-row equality queries never fail with `IndexError` (which is how the stale index of the
pinned commit shows up in `query_index_column_value`). -/
theorem C16_query_never_out_of_range (c : Ctor) (ops : List WOp) (col : String) (v : Cell) :
    let t := (run current (init current c) ops).1.cur
    (step current t (.queryTable col v)).2.1 ≠ .err .index ∧
    (step current t (.queryFirst col v)).2.1 ≠ .err .index :=
  query_never_out_of_range (reachable_cached c ops) col v

/-- **C16 (frames stay well-formed).** From a rectangular constructor argument, the frame after every
call has one label per row and every row as wide as the header. -/
theorem C16_frames_wellformed (c : Ctor) (hc : CtorWF c) (ops : List WOp) :
    ∀ o ∈ (run current (init current c) ops).2, o.2.WF := by
  rw [C16_refines]
  exact (specRun_wf ops _ (specInit_wf hc)).2

/-- **C16 (every row has its label).** In every state reachable from a rectangular constructor
argument, access by position, by a list of positions and iteration never end in the `IndexError`
branch that the model's totalised `index[counter]` lookup carries: the refinement theorem is not true
"for the wrong reason" there. -/
theorem C16_rows_have_labels (c : Ctor) (hc : CtorWF c) (ops : List WOp) (i : Int) (is : List Int) :
    let t := (run current (init current c) ops).1.cur
    (∀ e, (step current t (.accessPos i)).2.1 ≠ .err e) ∧
    (∀ e, (step current t (.accessList is)).2.1 ≠ .err e) ∧
    (∀ e, (step current t .iter).2.1 ≠ .err e) :=
  rows_have_labels (reachable_cached c ops) (reachable_wf c hc ops).1 i is

/-- **C16 (a block is what lies between its two markers).** In every reachable state, for a usable
block id: `read_block` returns a table iff a scan of the `stmt_id` column finds the id at exactly two
positions `p`, `q`, the table consists of exactly the rows strictly between them (with their labels),
and otherwise the call ends in `error_and_quit`. -/
theorem C16_block_two_markers (c : Ctor) (ops : List WOp) (id : Cell) (col : List Cell)
    (hid : id.isna = false) :
    let t := (run current (init current c) ops).1.cur
    t.data.column "stmt_id" = some col →
    (step current t (.readBlock id false)).2.1 =
      (match scanFrom 0 col id with
       | [p, q] => .frame { t.data with labels := (t.data.labels.drop (p + 1)).take (q - (p + 1)),
                                        rows := (t.data.rows.drop (p + 1)).take (q - (p + 1)) }
       | _ => .err .quit) := by
  intro t hcol
  exact readBlock_two_markers (reachable_cached c ops) hid hcol false

section Viewer
open LianVerif.BlockView

/-- **C16 (viewer: a block range is the pair of scan positions of its id).** Whenever the constructor
of `GIRBlockViewer` accepts a statement list, `_block_id_to_range[id] = (p, q)` holds exactly when a
scan of the statement ids finds `id` at the two positions `p, q` and nowhere else. -/
theorem C16_viewer_range_iff_scan {stmts : List Stmt} {s : St} (h : build stmts = .ok s)
    (id : Int) (p q : Nat) :
    lookupRange s.ranges id = some (p, q) ↔ occ stmts id = [p, q] := by
  have inv := build_inv h
  exact ⟨fun hl => (inv.range id p q hl).1, inv.closed id p q⟩

/-- … and those two positions hold the block's `block_start` and `block_end`, in that order. -/
theorem C16_viewer_range_markers {stmts : List Stmt} {s : St} (h : build stmts = .ok s)
    {id : Int} {p q : Nat} (hl : lookupRange s.ranges id = some (p, q)) :
    p < q ∧ stmts[p]? = some ⟨Kind.start, id⟩ ∧ stmts[q]? = some ⟨Kind.fin, id⟩ := by
  have inv := build_inv h
  obtain ⟨a, b, c⟩ := inv.range id p q hl
  exact ⟨occ_pair_lt a, b, c⟩

/-- every id that is not a recorded block occurs at most once (the duplicate check is complete) -/
theorem C16_viewer_other_ids_unique {stmts : List Stmt} {s : St} (h : build stmts = .ok s) (id : Int)
    (hl : lookupRange s.ranges id = none) : (occ stmts id).length ≤ 1 := by
  have inv := build_inv h
  rcases ho : occ stmts id with _ | ⟨p, _ | ⟨q, _ | ⟨x, xs⟩⟩⟩
  · exact Nat.zero_le 1
  · exact Nat.le_refl 1
  · cases hl.symm.trans (inv.closed id p q ho)
  · exact absurd (ho ▸ inv.two id) (by simp)

/-- **C16 (viewer: `read_block` from the root shows the statements strictly between the markers).** -/
theorem C16_viewer_read_block {stmts : List Stmt} {s : St} (h : build stmts = .ok s) (id : Int) :
    (match occ stmts id with
     | [p, q] => readBlock s (root s) id = some ((p : Int), (q : Int)) ∧
                 visible stmts ((p : Int), (q : Int)) = (stmts.drop (p + 1)).take (q - (p + 1))
     | _ => readBlock s (root s) id = none) := by
  have inv := build_inv h
  have hn : (∀ p q, occ stmts id ≠ [p, q]) → readBlock s (root s) id = none := by
    intro ho
    cases hl : lookupRange s.ranges id with
    | none => simp only [readBlock, hl]
    | some pq => exact absurd (inv.range id pq.1 pq.2 hl).1 (ho _ _)
  rcases ho : occ stmts id with _ | ⟨p, _ | ⟨q, _ | ⟨x, xs⟩⟩⟩
  · exact hn fun _ _ e => nomatch ho.symm.trans e
  · exact hn fun _ _ e => nomatch ho.symm.trans e
  · have hl := inv.closed id p q ho
    have hq : q < s.n := inv.n ▸ (List.getElem?_eq_some_iff.1 (inv.range id p q hl).2.2).1
    constructor
    · simp only [readBlock, hl, root]
      exact if_pos ⟨by omega, Int.ofNat_lt.2 hq⟩
    · exact visible_ofNat stmts p q
  · exact hn fun _ _ e => nomatch ho.symm.trans e

/-- the first-index map (`_stmt_id_to_index`, behind `get_stmt_by_id`, `contains_stmt_id`, `__contains__`)
holds for every id the first position a scan finds, and nothing for ids that do not occur -/
theorem C16_viewer_first_index_is_scan {stmts : List Stmt} {s : St} (h : build stmts = .ok s) (id : Int) :
    (lookupFirst s.first id).map (fun e => e.1) = (occ stmts id).head? := by
  have inv := build_inv h
  cases hl : lookupFirst s.first id with
  | none => rw [(inv.firstNone id).1 hl]; rfl
  | some e =>
    obtain ⟨i, k⟩ := e
    obtain ⟨⟨t, ht⟩, _⟩ := inv.firstSome id i k hl
    rw [ht]; rfl

/-- **C16 (viewer: `append_other` re-roots the receiver; repaired variant `atomic = true`).**  Whatever the receiver was — a root, a
block view, a copy — a successful `append_other` makes it a root viewer (window `(-1, n)`) over
exactly the statements the two viewers showed, with the block geometry of a fresh constructor run on
that list (so the scan theorems above apply to it); a refused one leaves the receiver as it was. -/
theorem C16_viewer_append_reroots (v o : Viewer) :
    (∀ v', Viewer.appendOther true v o = (v', none) →
      v'.coll = v.visible ++ o.visible ∧ v'.range = (-1, (v'.coll.length : Int)) ∧
      (v'.coll = [] ∧ v'.st = St.init ∨ build (v'.coll.map (fun s => s.core)) = .ok v'.st)) ∧
    (∀ v' e, Viewer.appendOther true v o = (v', some e) → v' = v) := by
  dsimp only [Viewer.appendOther, Viewer.ofList]
  generalize v.visible ++ o.visible = l
  cases l with
  | nil =>
    refine ⟨fun v' hv => ?_, fun _ _ hv => nomatch hv⟩
    cases hv
    exact ⟨rfl, rfl, .inl ⟨rfl, rfl⟩⟩
  | cons x xs =>
    simp only [List.isEmpty_cons, Bool.false_eq_true, if_false, if_true]
    cases hb : build ((x :: xs).map (fun s => s.core)) with
    | ok s =>
      refine ⟨fun v' hv => ?_, fun _ _ hv => nomatch hv⟩
      cases hv
      exact ⟨rfl, rfl, .inr hb⟩
    | error e =>
      refine ⟨fun _ hv => (nomatch hv), fun v' e hv => ?_⟩
      cases hv
      rfl

def vs (l : List (Kind × Int)) : List VStmt :=
  (l.zip (List.range l.length)).map (fun x => { core := ⟨x.1.1, x.1.2⟩, uid := x.2, tag := 0, label := x.2 })

/-- `d1 [2 d3 [4 x5 4] 2] d6 [7 7]` -/
def unit0 : List VStmt :=
  vs [(.other, 1), (.start, 2), (.other, 3), (.start, 4), (.other, 5), (.fin, 4), (.fin, 2), (.other, 6),
      (.start, 7), (.fin, 7)]

/-- non-vacuity of `C16_viewer_append_reroots`: a block view appended with an empty viewer becomes a
root over its four statements, positions now count from 0 -/
example :
    (stepV true ((stepV true ((stepV true ((stepV true [] (.new unit0)).1) (.read 0 (some 2))).1) .empty).1)
        (.append 1 2)).1[1]?.map (fun v => (v.range, v.len, (v.stmtByPos 0).map (fun s => s.core.id),
          v.blockStmtIds (some 4), v.boundary [some 4, some 2]))
      = some ((-1, 4), 4, some 3, [5], 3) := by decide +kernel

/-- **the pinned commit violates it** (frozen variant `atomic = false`): a block view appended with its
own root is refused (`duplicate stmt_id`), and the receiver is left showing nothing while
`get_block_stmt_ids` / `boundary_of_multi_blocks` still answer from the half-built geometry.  The
repaired variant leaves the receiver untouched. -/
theorem C16_unfixed_counterexample_viewer_append :
    let slots := (stepV false ((stepV false [] (.new unit0)).1) (.read 0 (some 2))).1
    let after0 := stepV false slots (.append 1 0)
    let after1 := stepV true slots (.append 1 0)
    after0.2 = .err .dup ∧
    after0.1[1]?.map (fun v => (v.len, v.blockStmtIds (some 4), v.boundary [some 4])) = some (0, [5], 3) ∧
    after1.2 = .err .dup ∧ after1.1 = slots := by decide +kernel

def okOf (r : Except BErr St) : Option St := match r with | .ok s => some s | .error _ => none
def errOf (r : Except BErr St) : Option BErr := match r with | .ok _ => none | .error e => some e

/-- non-vacuity: a nested pair of blocks is accepted and read back; malformed lists are refused -/
example :
    (okOf (build [⟨.other, 1⟩, ⟨.start, 2⟩, ⟨.start, 3⟩, ⟨.other, 4⟩, ⟨.fin, 3⟩, ⟨.fin, 2⟩])).map
      (fun s => (readBlock s (root s) 2, readBlock s (root s) 3, readBlock s (1, 5) 3, readBlock s (2, 4) 2))
      = some (some (1, 5), some (2, 4), some (2, 4), none) ∧
    errOf (build [⟨.start, 2⟩, ⟨.fin, 2⟩, ⟨.fin, 2⟩]) = some .noStart ∧
    errOf (build [⟨.other, 1⟩, ⟨.other, 1⟩]) = some .dup ∧
    errOf (build [⟨.start, 1⟩, ⟨.start, 2⟩, ⟨.fin, 1⟩]) = some .mismatch ∧
    errOf (build [⟨.start, 1⟩]) = some .unclosed := by decide +kernel

end Viewer

/-- **C16 for a `DataModel` built from another `DataModel` — PARTIAL.**  Take any reachable table,
construct a second wrapper from it (`DataModel(t)`: shared DataFrame object, shared rows cache, shared
index dict, separate dirty flags) and call any sequence of *non-mutating* methods on the two wrappers
in any interleaving: every answer is the answer of a scan of the shared frame.

-- OPEN (not proved, and false for the code as it is — see `C16_alias_counterexample`):
-- the same statement without the hypothesis `hq`, i.e. with mutations after the sharing
--   theorem C16_shared_caches (c pre ops) :
--     (runD current (Duo.share t) ops).2 = (specRunD (SDuo.share t.data) ops).2
-- Finding C16/alias-shared-dataframe; that production code never gets there is monitored, not proved. -/
theorem C16_shared_caches_partial (c : Ctor) (pre : List WOp) (ops : List (Bool × Op))
    (hq : ∀ o ∈ ops, o.2.isQuery = true) :
    let t := (run current (init current c) pre).1.cur
    (runD current (Duo.share t) ops).2 = (specRunD (SDuo.share t.data) ops).2 := by
  intro t
  have hc : Cached t t.data := reachable_cached c pre
  exact runD_query ops t.data _ (fun who => by cases who <;> rfl) _ (dinv_share hc) hq

def tbl : Ctor := .rows ["a", "b"] [[.int 1, .str "x"], [.int 2, .str "y"], [.int 1, .str "z"]] false

/-- non-vacuity: histories with duplicates, missing values and the call shapes whose caches are stale
at the pinned commit (query, mutation, same query) -/
example : ((run current (init current tbl)
    [.on (.queryIdx "a" (.int 1)) false, .on (.removeRows "a" (.int 1)) false,
     .on (.queryIdx "a" (.int 1)) false, .on (.queryIdx "a" (.int 2)) false, .on .len false]).2.map (·.1))
    = [.positions [0, 2], .unit, .positions [], .positions [0], .int 1] := by decide +kernel

example : ((run current (init current (.rows ["stmt_id", "b"]
      [[.int 1, .str "d"], [.int 2, .str ""], [.int 3, .none], [.int 2, .str "e"]] false))
    [.on (.readBlock (.int 2) false) true, .on .iter false, .swap,
     .on (.modifyElement 2 "b" (.str "q") false) false, .on (.queryIdx "b" (.str "q")) false]).2.map (·.1))
    = [.frame { cols := ["stmt_id", "b"], labels := [2], rows := [[.int 3, .none]] },
       .rows [some { cells := [.int 3, .none], schema := ["stmt_id", "b"], index := 2 }],
       .unit, .unit, .positions [2]] := by decide +kernel

/-- the reproduced defect: query, remove rows, same query — the index of the old contents answers,
with position 2 on a table that has one row left. -/
theorem C16_unfixed_counterexample :
    let ops : List WOp := [.on (.queryIdx "a" (.int 1)) false, .on (.removeRows "a" (.int 1)) false,
                           .on (.queryIdx "a" (.int 1)) false]
    (run pinned (init pinned tbl) ops).2 ≠ (specRun (specInit tbl) ops).2 ∧
    ((run pinned (init pinned tbl) ops).2.map (·.1)) = [.positions [0, 2], .unit, .positions [0, 2]] ∧
    (run pinned (init pinned tbl) ops).1.cur.data.rows.length = 1 := by decide +kernel

/-- same defect through `modify_element` and through `append_data_model` -/
theorem C16_unfixed_counterexample_modify_append :
    (run pinned (init pinned tbl) [.on (.queryIdx "a" (.int 1)) false,
        .on (.modifyElement 0 "a" (.int 5) false) false, .on (.queryIdx "a" (.int 1)) false]).2
      ≠ (specRun (specInit tbl) [.on (.queryIdx "a" (.int 1)) false,
        .on (.modifyElement 0 "a" (.int 5) false) false, .on (.queryIdx "a" (.int 1)) false]).2 ∧
    (run pinned (init pinned tbl) [.on (.queryIdx "a" (.int 1)) false,
        .on (.append (Frame.ofRows ["a", "b"] [[.int 1, .str "w"]])) false, .on (.queryIdx "a" (.int 1)) false]).2
      ≠ (specRun (specInit tbl) [.on (.queryIdx "a" (.int 1)) false,
        .on (.append (Frame.ofRows ["a", "b"] [[.int 1, .str "w"]])) false, .on (.queryIdx "a" (.int 1)) false]).2 := by
  decide +kernel

/-- the stale positions reach `iloc`: `query_index_column_value` raises `IndexError` -/
theorem C16_unfixed_counterexample_index_error :
    ((run pinned (init pinned tbl) [.on (.queryIdx "a" (.int 1)) false, .on (.removeRows "a" (.int 1)) false,
        .on (.queryTable "a" (.int 1)) false]).2.map (·.1)).getLast? = some (.err .index) := by decide +kernel

def tbl3 : Ctor := .rows ["a", "b", "c"] [[.int 1, .str "x", .int 3], [.int 2, .str "y", .int 4]] false

/-- `modify_row` refused by pandas at the second column: the first column is already written, the
rows cache is not invalidated. -/
theorem C16_unfixed_counterexample_partial_row :
    let ops : List WOp := [.on (.accessPos 0) false,
                           .on (.modifyRow 0 [.int 7, .int 8, .int 9] (some 1)) false, .on (.accessPos 0) false]
    (run pinned (init pinned tbl3) ops).2 ≠ (specRun (specInit tbl3) ops).2 := by decide +kernel

/-- `modify_element` for a new label refused by pandas: the all-NaN row is already appended. -/
theorem C16_unfixed_counterexample_partial_element :
    let ops : List WOp := [.on .iter false, .on (.modifyElement 7 "a" (.str "q") true) false, .on .iter false]
    (run pinned (init pinned tbl) ops).2 ≠ (specRun (specInit tbl) ops).2 := by decide +kernel

def tblm : Ctor := .rows ["a", "m"] [[.int 1, .str "x"], [.none, .int 1], [.int 2, .none]] false

/-- `fillna` without invalidation -/
theorem C16_unfixed_counterexample_fillna :
    let ops : List WOp := [.on (.queryIdx "a" (.int 0)) false, .on .iter false, .on (.fillna (.int 0)) false,
                           .on (.queryIdx "a" (.int 0)) false, .on (.accessPos 1) false]
    (run pinned (init pinned tblm) ops).2 ≠ (specRun (specInit tblm) ops).2 := by decide +kernel

/-- `set_columns` keeps the old schema: rows answer to the old names, the new names are unknown -/
theorem C16_unfixed_counterexample_set_columns :
    let ops : List WOp := [.on (.setColumns ["p", "q"]) false, .on (.accessPos 0) false,
                           .on (.queryIdx "p" (.int 1)) false]
    (run pinned (init pinned tbl) ops).2 ≠ (specRun (specInit tbl) ops).2 := by decide +kernel

/-- `reset_index(move_index_to_column=True)` keeps schema and rows of the old layout -/
theorem C16_unfixed_counterexample_reset_move :
    let ops : List WOp := [.on (.resetIndex true) false, .on (.accessPos 0) false]
    (run pinned (init pinned tbl) ops).2 ≠ (specRun (specInit tbl) ops).2 := by decide +kernel

/-- `A = DataModel(rows); list(A); B = DataModel(A); B.modify_element(0, "a", 9); A.access(0)`:
`A` answers from its rows cache of the old contents although `A._data` holds 9.  This is the `current`
variant: the repairs do not remove it. -/
theorem C16_alias_counterexample :
    let t := (run current (init current tbl) [.on .iter false]).1.cur
    let ops : List (Bool × Op) := [(true, .modifyElement 0 "a" (.int 9) false), (false, .accessPos 0),
                                    (true, .queryIdx "a" (.int 1)), (false, .queryIdx "a" (.int 9))]
    (runD current (Duo.share t) ops).2 ≠ (specRunD (SDuo.share t.data) ops).2 ∧
    ((runD current (Duo.share t) ops).2.map (·.1)) =
      [.unit, .row { cells := [.int 1, .str "x"], schema := ["a", "b"], index := 0 },
       .positions [2], .positions [0]] := by decide +kernel

/-- non-vacuity of `C16_shared_caches_partial`: queries on both wrappers, the index built through one
is used by the other -/
example :
    let t := (run current (init current tbl) [.on (.queryIdx "a" (.int 1)) false]).1.cur
    ((runD current (Duo.share t) [(true, .queryIdx "a" (.int 2)), (false, .iter), (true, .accessPos 2),
        (false, .queryIdx "b" (.str "z"))]).2.map (·.1)) =
      [.positions [1],
       .rows [some { cells := [.int 1, .str "x"], schema := ["a", "b"], index := 0 },
              some { cells := [.int 2, .str "y"], schema := ["a", "b"], index := 1 },
              some { cells := [.int 1, .str "z"], schema := ["a", "b"], index := 2 }],
       .row { cells := [.int 1, .str "z"], schema := ["a", "b"], index := 2 },
       .positions [2]] := by decide +kernel

end LianVerif.C16
