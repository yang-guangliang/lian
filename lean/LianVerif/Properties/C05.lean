/-
C05 — Names are bound to the declaration selected by the language's lexical scoping.

Models: LianVerif/Model/Scope.lean   (`scopeTable` = live code in /repo, `scopeTable0` = pinned commit)
        LianVerif/Model/Resolver.lean (`resolveDecl`, `bind`)
        LianVerif/Model/Hoist.lean    (`hoist (Cfg.current _)` = live code in /repo, `hoist (Cfg.pinned _)` = pinned commit)
Spec:   LianVerif/Spec/Lexical.lean   (`lexDecl`: walk up the scope tree)
-/
import LianVerif.Proofs.Resolver
import LianVerif.Model.Hoist

namespace LianVerif.C05
open LianVerif.Scopes LianVerif.Resolver LianVerif.Lexical

variable {ν : Type} [DecidableEq ν]

/-- with a visible-scope entry equal to the path to the root, "visible" means ancestor-or-self (or
an implicit root block): the declaration is never one of a sibling or inner scope. -/
theorem C05_never_sibling_or_inner (recs : List ScopeRec) (S : Summary ν) (cur : Int) (n : ν)
    (d : Decl ν) (v : List Int)
    (hv : S.avail.get cur.toNat = some v ∧ ∀ x, x ∈ v ↔ x ∈ chain recs cur)
    (h : resolveDecl S cur n = some d) :
    d.scope ∈ chain recs cur ∨ d.scope ∈ S.implicit := by
  obtain ⟨_, _, h1 | ⟨_, h2⟩⟩ := resolveDecl_visible h
  · exact Or.inr h1
  · rw [hv.1] at h2
    exact Or.inl ((hv.2 _).1 h2)

/-- **C05 ("reported unresolved iff no declaration is visible").** -/
theorem C05_unresolved_iff (S : Summary ν) (cur : Int) (n : ν) (hcur : cur ≠ -1) :
    resolveDecl S cur n = none ↔
      ∀ x, (x ∈ S.implicit ∨ (0 ≤ cur ∧ x ∈ (S.avail.get cur.toNat).getD [])) →
        (declScopes S.decls n).contains x = false :=
  resolveDecl_eq_none_iff hcur

/-- **the closure computes ancestor paths.**  Under `IdOrder` (ascending ids, every scope's
parent is the root or a scope with a smaller id — checked by the driver on every real unit) the
worklist closure terminates within the model's fuel and the visible-scope entry of the root and of
every scope is exactly the path to the root. -/
theorem C05_closure_is_ancestor_path (recs : List ScopeRec) (h : idOrder recs = true) :
    (closure (availInit recs)).2 = true ∧
    ∀ cur : Int, (cur = 0 ∨ isScopeStmt recs cur = true) →
      ∃ v, (closure (availInit recs)).1.get cur.toNat = some v ∧ ∀ x, x ∈ v ↔ x ∈ chain recs cur :=
  closure_spec (idOrder_sound h)

theorem C05_path_ids_decrease (recs : List ScopeRec) (h : idOrder recs = true) (cur : Int)
    (hcur : cur = 0 ∨ isScopeStmt recs cur = true) :
    (chain recs cur).Pairwise (fun a b => a > b) :=
  chain_desc (idOrder_sound h) hcur

/-- **C05 (language-independent core), model form.**  For the summary that the model of
`summarize_symbol_decls` builds from any scope space satisfying `IdOrder`, for every current scope
(the unit root or a scope) and every name that no implicit root block outside the path declares:
the resolver returns the declaration lexical scoping selects. -/
theorem C05_resolver_innermost (recs : List ScopeRec) (ds : List (Decl ν)) (cur : Int) (n : ν)
    (hid : idOrder recs = true) (hcur : cur = 0 ∨ isScopeStmt recs cur = true)
    (himp : ∀ b ∈ implicitRoots recs, (declScopes ds n).contains b = true → b ∈ chain recs cur) :
    resolveDecl (summaryOf ds recs) cur n = lexDecl recs ds cur n := by
  have w := idOrder_sound hid
  exact resolveDecl_eq_lexDecl recs (summaryOf ds recs) cur n (w.nonneg hcur) ((closure_spec w).2 cur hcur)
    (chain_desc w hcur) himp

/-- the same through the certified monitor: whenever the driver's checks `idOrder` and `availOk`
accept a (real) scope space and visible-scope table, the resolver on these tables is lexical. -/
theorem C05_resolver_innermost_monitored (recs : List ScopeRec) (S : Summary ν) (cur : Int) (n : ν)
    (hid : idOrder recs = true) (hav : availOk recs S.avail = true)
    (hcur : cur = 0 ∨ isScopeStmt recs cur = true)
    (himp : ∀ b ∈ S.implicit, (declScopes S.decls n).contains b = true → b ∈ chain recs cur) :
    resolveDecl S cur n = lexDecl recs S.decls cur n := by
  have w := idOrder_sound hid
  exact resolveDecl_eq_lexDecl recs S cur n (w.nonneg hcur) (availOk_sound hav cur hcur) (chain_desc w hcur) himp

section Alpha
variable {μ : Type} [DecidableEq μ]

/-- **C05 (renaming, all identifiers).**  The whole per-unit pipeline — `discover_scopes`,
`correct_scopes`, `summarize_symbol_decls`, resolver, def-use rule — commutes with every injective
renaming `σ` of identifiers that commutes with "last dotted segment": the occurrence `σ n` in the
renamed unit is bound to the same declaration statement, in the same scope, under the renamed name. -/
theorem C05_alpha (σ : ν → μ) (hinj : Function.Injective σ)
    (lastSeg : ν → Option ν) (lastSeg' : μ → Option μ) (hseg : ∀ a, lastSeg' (σ a) = (lastSeg a).map σ)
    (t : OpTable) (rows : List (Row ν)) (stmt : Nat) (n : ν) (mode : Mode) :
    bindRows lastSeg' t (rows.map (Row.map σ)) stmt (σ n) mode =
      (bindRows lastSeg t rows stmt n mode).map (Decl.map σ) :=
  bindRows_map σ hinj lastSeg lastSeg' t rows (fun _ _ a _ => hseg a) stmt n mode

-- the statement is fixed with the section's two `DecidableEq` binders, which `Row.shape` never needs
set_option linter.unusedSectionVars false in
theorem C05_scope_structure_name_independent (σ : ν → μ) (t : OpTable) (rows : List (Row ν)) :
    scopeTable t ((rows.map (Row.map σ)).map Row.shape) = scopeTable t (rows.map Row.shape) := by
  rw [shapes_map σ rows]

end Alpha

def renameIn (S : Summary ν) (d0 : Nat) (n' : ν) : Summary ν :=
  { S with decls := renameDecl S.decls d0 n' }

/-- **C05 (renaming one declaration) — the occurrences bound to it.**  Rename the declaration made
by statement `d0` from `n` to a fresh name `n'`.  Every occurrence of `n` that was bound to that
declaration is, once renamed to `n'` as well, still bound to it. -/
theorem C05_alpha_single_bound (S : Summary ν) (d0 : Nat) (n n' : ν) (cur : Int) (dd : Decl ν)
    (hfresh : ∀ d ∈ S.decls, d.name ≠ n')
    (huniq : ∀ d ∈ S.decls, d.stmt = d0 → d = dd)
    (h : resolveDecl S cur n = some dd) (hdd : dd.stmt = d0) :
    resolveDecl (renameIn S d0 n') cur n' = some { dd with name := n' } := by
  obtain ⟨hmem, _, hvis⟩ := resolveDecl_visible h
  refine resolveDecl_of_unique (resolveDecl_eq_some_iff.1 h).1 (List.mem_map.2 ⟨dd, hmem, by simp [hdd]⟩) rfl
    (fun x hx hxn => ?_) hvis
  obtain ⟨y, hy, rfl⟩ := List.mem_map.1 hx
  by_cases hyd : y.stmt = d0
  · have := huniq y hy hyd
    subst this
    simp [hdd]
  · rw [if_neg (by simpa using hyd)] at hxn
    exact absurd hxn (hfresh y hy)

/-- **C05 (renaming one declaration) — the occurrences of the old name NOT bound to it** keep their
binding (they are not renamed). -/
theorem C05_alpha_single_unbound (S : Summary ν) (d0 : Nat) (n n' : ν) (cur : Int) (hne : n ≠ n')
    (h : ∀ dd, resolveDecl S cur n = some dd → dd.stmt ≠ d0) :
    resolveDecl (renameIn S d0 n') cur n = resolveDecl S cur n := by
  rw [← resolveDecl_filter S cur n (fun d => !(d.stmt == d0)) fun d hd => by simpa using h d hd]
  exact resolveDecl_congr cur (filter_name_rename_old S.decls d0 hne) rfl rfl

/-- **C05 (renaming one declaration) — all other names** are unaffected. -/
theorem C05_alpha_single_other (S : Summary ν) (d0 : Nat) (n n' m : ν) (cur : Int)
    (hold : ∀ d ∈ S.decls, d.stmt = d0 → d.name = n) (hmn : m ≠ n) (hmn' : m ≠ n') :
    resolveDecl (renameIn S d0 n') cur m = resolveDecl S cur m :=
  resolveDecl_congr cur (filter_name_rename_other S.decls d0 hold hmn hmn') rfl rfl

/- Rows are the GIR rows lian emits for the quoted programs (ids shifted so that the unit starts at 1;
the harness replays the same programs on the real code from `corpus/C05/`).
Row = ⟨op, id, parent, name, alias, fields, methods, nested, parameters, init_body, body⟩. -/

/-- `x = 1` / `class A:` / `    x = 2` / `    def f(self):` / `        return x` -/
def w1Rows : List (Row String) := [
  ⟨"variable_decl", 1, 0, some "x", none, none, none, none, none, none, none⟩,
  ⟨"class_decl", 3, 0, some "A", none, some 11, some 4, none, none, none, none⟩,
  ⟨"block_start", 4, 3, none, none, none, none, none, none, none, none⟩,
  ⟨"method_decl", 5, 4, some "%class_sinit", none, none, none, none, none, none, some 6⟩,
  ⟨"block_start", 6, 5, none, none, none, none, none, none, none, none⟩,
  ⟨"field_write", 7, 6, none, none, none, none, none, none, none, none⟩,
  ⟨"block_end", 6, 5, none, none, none, none, none, none, none, none⟩,
  ⟨"method_decl", 8, 4, some "f", none, none, none, none, none, none, some 9⟩,
  ⟨"block_start", 9, 8, none, none, none, none, none, none, none, none⟩,
  ⟨"return_stmt", 10, 9, some "x", none, none, none, none, none, none, none⟩,
  ⟨"block_end", 9, 8, none, none, none, none, none, none, none, none⟩,
  ⟨"block_end", 4, 3, none, none, none, none, none, none, none, none⟩,
  ⟨"block_start", 11, 3, none, none, none, none, none, none, none, none⟩,
  ⟨"variable_decl", 12, 11, some "x", none, none, none, none, none, none, none⟩,
  ⟨"block_end", 11, 3, none, none, none, none, none, none, none, none⟩,
  ⟨"method_decl", 13, 0, some "%unit_init", none, none, none, none, none, none, some 14⟩,
  ⟨"block_start", 14, 13, none, none, none, none, none, none, none, none⟩,
  ⟨"assign_stmt", 2, 14, none, none, none, none, none, none, none, none⟩,
  ⟨"block_end", 14, 13, none, none, none, none, none, none, none, none⟩]

/-- `if (c) {` / `  let x = 5;` / `}` / `function k() {` / `  return x;` / `}` -/
def w2Rows : List (Row String) := [
  ⟨"method_decl", 5, 0, some "k", none, none, none, none, none, none, some 6⟩,
  ⟨"block_start", 6, 5, none, none, none, none, none, none, none, none⟩,
  ⟨"return_stmt", 7, 6, some "x", none, none, none, none, none, none, none⟩,
  ⟨"block_end", 6, 5, none, none, none, none, none, none, none, none⟩,
  ⟨"method_decl", 8, 0, some "%unit_init", none, none, none, none, none, none, some 9⟩,
  ⟨"block_start", 9, 8, none, none, none, none, none, none, none, none⟩,
  ⟨"if_stmt", 1, 9, none, none, none, none, none, none, none, none⟩,
  ⟨"block_start", 2, 1, none, none, none, none, none, none, none, none⟩,
  ⟨"variable_decl", 3, 2, some "x", none, none, none, none, none, none, none⟩,
  ⟨"assign_stmt", 4, 2, none, none, none, none, none, none, none, none⟩,
  ⟨"block_end", 2, 1, none, none, none, none, none, none, none, none⟩,
  ⟨"block_end", 9, 8, none, none, none, none, none, none, none, none⟩]

/-- `x = 1` / `def g():` / `    x = 2` / `    def h():` / `        global x` / `        return x` -/
def w3Rows : List (Row String) := [
  ⟨"variable_decl", 1, 0, some "x", none, none, none, none, none, none, none⟩,
  ⟨"method_decl", 3, 0, some "g", none, none, none, none, none, none, some 4⟩,
  ⟨"block_start", 4, 3, none, none, none, none, none, none, none, none⟩,
  ⟨"variable_decl", 5, 4, some "x", none, none, none, none, none, none, none⟩,
  ⟨"assign_stmt", 6, 4, none, none, none, none, none, none, none, none⟩,
  ⟨"method_decl", 7, 4, some "h", none, none, none, none, none, none, some 8⟩,
  ⟨"block_start", 8, 7, none, none, none, none, none, none, none, none⟩,
  ⟨"global_stmt", 9, 8, some "x", none, none, none, none, none, none, none⟩,
  ⟨"return_stmt", 10, 8, some "x", none, none, none, none, none, none, none⟩,
  ⟨"block_end", 8, 7, none, none, none, none, none, none, none, none⟩,
  ⟨"block_end", 4, 3, none, none, none, none, none, none, none, none⟩,
  ⟨"method_decl", 11, 0, some "%unit_init", none, none, none, none, none, none, some 12⟩,
  ⟨"block_start", 12, 11, none, none, none, none, none, none, none, none⟩,
  ⟨"assign_stmt", 2, 12, none, none, none, none, none, none, none, none⟩,
  ⟨"block_end", 12, 11, none, none, none, none, none, none, none, none⟩]

/-- `class A:` / ` class B:` / `  def m(self):` / `   loc = 1` / `   class C:` / `    def k(self):` /
`     return loc` -/
def w4Rows : List (Row String) := [
  ⟨"class_decl", 1, 0, some "A", none, none, none, some 2, none, none, none⟩,
  ⟨"block_start", 2, 1, none, none, none, none, none, none, none, none⟩,
  ⟨"class_decl", 3, 2, some "B", none, none, some 4, none, none, none, none⟩,
  ⟨"block_start", 4, 3, none, none, none, none, none, none, none, none⟩,
  ⟨"method_decl", 5, 4, some "m", none, none, none, none, some 6, none, some 8⟩,
  ⟨"block_start", 6, 5, none, none, none, none, none, none, none, none⟩,
  ⟨"parameter_decl", 7, 6, some "self", none, none, none, none, none, none, none⟩,
  ⟨"block_end", 6, 5, none, none, none, none, none, none, none, none⟩,
  ⟨"block_start", 8, 5, none, none, none, none, none, none, none, none⟩,
  ⟨"variable_decl", 9, 8, some "loc", none, none, none, none, none, none, none⟩,
  ⟨"assign_stmt", 10, 8, none, none, none, none, none, none, none, none⟩,
  ⟨"class_decl", 11, 8, some "C", none, none, some 12, none, none, none, none⟩,
  ⟨"block_start", 12, 11, none, none, none, none, none, none, none, none⟩,
  ⟨"method_decl", 13, 12, some "k", none, none, none, none, some 14, none, some 16⟩,
  ⟨"block_start", 14, 13, none, none, none, none, none, none, none, none⟩,
  ⟨"parameter_decl", 15, 14, some "self", none, none, none, none, none, none, none⟩,
  ⟨"block_end", 14, 13, none, none, none, none, none, none, none, none⟩,
  ⟨"block_start", 16, 13, none, none, none, none, none, none, none, none⟩,
  ⟨"return_stmt", 17, 16, some "loc", none, none, none, none, none, none, none⟩,
  ⟨"block_end", 16, 13, none, none, none, none, none, none, none, none⟩,
  ⟨"block_end", 12, 11, none, none, none, none, none, none, none, none⟩,
  ⟨"block_end", 8, 5, none, none, none, none, none, none, none, none⟩,
  ⟨"block_end", 4, 3, none, none, none, none, none, none, none, none⟩,
  ⟨"block_end", 2, 1, none, none, none, none, none, none, none, none⟩]

/-- `function f(c) {` / `  if (c) {` / `    var v = 1;` / `  }` / `  return v;` / `}` — rows emitted at
the PINNED commit (the declaration of `v` sits inside the if-block). -/
def w5RowsPinned : List (Row String) := [
  ⟨"method_decl", 1, 0, some "f", none, none, none, none, some 2, none, some 4⟩,
  ⟨"block_start", 2, 1, none, none, none, none, none, none, none, none⟩,
  ⟨"parameter_decl", 3, 2, some "c", none, none, none, none, none, none, none⟩,
  ⟨"block_end", 2, 1, none, none, none, none, none, none, none, none⟩,
  ⟨"block_start", 4, 1, none, none, none, none, none, none, none, none⟩,
  ⟨"if_stmt", 5, 4, none, none, none, none, none, none, none, none⟩,
  ⟨"block_start", 6, 5, none, none, none, none, none, none, none, none⟩,
  ⟨"variable_decl", 7, 6, some "v", none, none, none, none, none, none, none⟩,
  ⟨"assign_stmt", 8, 6, none, none, none, none, none, none, none, none⟩,
  ⟨"block_end", 6, 5, none, none, none, none, none, none, none, none⟩,
  ⟨"return_stmt", 9, 4, some "v", none, none, none, none, none, none, none⟩,
  ⟨"block_end", 4, 1, none, none, none, none, none, none, none, none⟩]

/-- the same program, rows emitted by the live code. -/
def w5Rows : List (Row String) := [
  ⟨"method_decl", 1, 0, some "f", none, none, none, none, some 2, none, some 4⟩,
  ⟨"block_start", 2, 1, none, none, none, none, none, none, none, none⟩,
  ⟨"parameter_decl", 3, 2, some "c", none, none, none, none, none, none, none⟩,
  ⟨"block_end", 2, 1, none, none, none, none, none, none, none, none⟩,
  ⟨"block_start", 4, 1, none, none, none, none, none, none, none, none⟩,
  ⟨"variable_decl", 5, 4, some "v", none, none, none, none, none, none, none⟩,
  ⟨"if_stmt", 6, 4, none, none, none, none, none, none, none, none⟩,
  ⟨"block_start", 7, 6, none, none, none, none, none, none, none, none⟩,
  ⟨"assign_stmt", 8, 7, none, none, none, none, none, none, none, none⟩,
  ⟨"block_end", 7, 6, none, none, none, none, none, none, none, none⟩,
  ⟨"return_stmt", 9, 4, some "v", none, none, none, none, none, none, none⟩,
  ⟨"block_end", 4, 1, none, none, none, none, none, none, none, none⟩]

/-- `def f(p):` / `    try:` / `        q = p` / `    except Exception:` / `        r = 1` /
`    return r` — rows emitted at the PINNED commit (`r` is declared inside the handler block). -/
def w6RowsPinned : List (Row String) := [
  ⟨"method_decl", 1, 0, some "f", none, none, none, none, some 2, none, some 4⟩,
  ⟨"block_start", 2, 1, none, none, none, none, none, none, none, none⟩,
  ⟨"parameter_decl", 3, 2, some "p", none, none, none, none, none, none, none⟩,
  ⟨"block_end", 2, 1, none, none, none, none, none, none, none, none⟩,
  ⟨"block_start", 4, 1, none, none, none, none, none, none, none, none⟩,
  ⟨"variable_decl", 5, 4, some "q", none, none, none, none, none, none, none⟩,
  ⟨"try_stmt", 6, 4, none, none, none, none, none, none, none, some 7⟩,
  ⟨"block_start", 7, 6, none, none, none, none, none, none, none, none⟩,
  ⟨"assign_stmt", 8, 7, none, none, none, none, none, none, none, none⟩,
  ⟨"block_end", 7, 6, none, none, none, none, none, none, none, none⟩,
  ⟨"block_start", 9, 6, none, none, none, none, none, none, none, none⟩,
  ⟨"catch_clause", 10, 9, none, none, none, none, none, none, none, some 11⟩,
  ⟨"block_start", 11, 10, none, none, none, none, none, none, none, none⟩,
  ⟨"variable_decl", 12, 11, some "r", none, none, none, none, none, none, none⟩,
  ⟨"assign_stmt", 13, 11, none, none, none, none, none, none, none, none⟩,
  ⟨"block_end", 11, 10, none, none, none, none, none, none, none, none⟩,
  ⟨"block_end", 9, 6, none, none, none, none, none, none, none, none⟩,
  ⟨"return_stmt", 14, 4, some "r", none, none, none, none, none, none, none⟩,
  ⟨"block_end", 4, 1, none, none, none, none, none, none, none, none⟩]

/-- the same program, rows emitted by the live code. -/
def w6Rows : List (Row String) := [
  ⟨"method_decl", 1, 0, some "f", none, none, none, none, some 2, none, some 4⟩,
  ⟨"block_start", 2, 1, none, none, none, none, none, none, none, none⟩,
  ⟨"parameter_decl", 3, 2, some "p", none, none, none, none, none, none, none⟩,
  ⟨"block_end", 2, 1, none, none, none, none, none, none, none, none⟩,
  ⟨"block_start", 4, 1, none, none, none, none, none, none, none, none⟩,
  ⟨"variable_decl", 5, 4, some "r", none, none, none, none, none, none, none⟩,
  ⟨"variable_decl", 6, 4, some "q", none, none, none, none, none, none, none⟩,
  ⟨"try_stmt", 7, 4, none, none, none, none, none, none, none, some 8⟩,
  ⟨"block_start", 8, 7, none, none, none, none, none, none, none, none⟩,
  ⟨"assign_stmt", 9, 8, none, none, none, none, none, none, none, none⟩,
  ⟨"block_end", 8, 7, none, none, none, none, none, none, none, none⟩,
  ⟨"block_start", 10, 7, none, none, none, none, none, none, none, none⟩,
  ⟨"catch_clause", 11, 10, none, none, none, none, none, none, none, some 12⟩,
  ⟨"block_start", 12, 11, none, none, none, none, none, none, none, none⟩,
  ⟨"assign_stmt", 13, 12, none, none, none, none, none, none, none, none⟩,
  ⟨"block_end", 12, 11, none, none, none, none, none, none, none, none⟩,
  ⟨"block_end", 10, 7, none, none, none, none, none, none, none, none⟩,
  ⟨"return_stmt", 14, 4, some "r", none, none, none, none, none, none, none⟩,
  ⟨"block_end", 4, 1, none, none, none, none, none, none, none, none⟩]

def tableOf (rows : List (Row String)) : DState := scopeTable defaultOps (rows.map Row.shape)
def declsOf (rows : List (Row String)) : List (Decl String) := decls lastSegStr rows (tableOf rows).recs

example : idOrder (tableOf w3Rows).recs = true ∧
    isScopeStmt (tableOf w3Rows).recs (stmtScope (tableOf w3Rows) 10) = true ∧
    implicitRoots (tableOf w3Rows).recs = [12] ∧
    (declScopes (declsOf w3Rows) "x").contains 12 = false ∧
    resolveDecl (summaryOf (declsOf w3Rows) (tableOf w3Rows).recs) (stmtScope (tableOf w3Rows) 10) "x"
      = some ⟨"x", 4, 5, false⟩ ∧
    lexDecl (tableOf w3Rows).recs (declsOf w3Rows) (stmtScope (tableOf w3Rows) 10) "x"
      = some ⟨"x", 4, 5, false⟩ ∧
    chain (tableOf w3Rows).recs (stmtScope (tableOf w3Rows) 10) = [8, 7, 4, 3, 0] := by decide +kernel

/-- only the injectivity hypothesis of `C05_alpha` ("append a character", on `Nat` names); its `hseg`
is not discharged here. -/
example : Function.Injective (fun n : Nat => n + 1) := fun a b h => by simpa using h

example :
    resolveDecl (renameIn (summaryOf (declsOf w3Rows) (tableOf w3Rows).recs) 5 "fresh")
      (stmtScope (tableOf w3Rows) 10) "fresh" = some ⟨"fresh", 4, 5, false⟩ ∧
    resolveDecl (renameIn (summaryOf (declsOf w3Rows) (tableOf w3Rows).recs) 5 "fresh")
      (stmtScope (tableOf w3Rows) 2) "x" = some ⟨"x", 0, 1, false⟩ := by decide +kernel

/-- **class scope visible from methods (Python).**  In `x = 1; class A: x = 2; def f(self): return x`
the `x` read in `f` is bound to the class field (statement 12, scope = class 3) although Python
skips class scopes for code inside a method: skipping scope 3, lexical scoping selects the module
variable (statement 1).  Witness of known finding C05/py-class-scope-visible-from-nested-scopes. -/
theorem C05_py_class_scope_leak :
    bindRows lastSegStr defaultOps w1Rows 10 "x" .use = some ⟨"x", 3, 12, false⟩ ∧
    (tableOf w1Rows).recs.contains ⟨3, 0, 0, .class_⟩ = true ∧
    lexDeclSkip [3] (tableOf w1Rows).recs (declsOf w1Rows) (stmtScope (tableOf w1Rows) 10) "x"
      = some ⟨"x", 0, 1, false⟩ := by decide +kernel

/-- **implicit root blocks (JavaScript).**  In `if (c) { let x = 5 }  function k() { return x }` the
block of the top-level `if` has scope 0 (the statements moved into `%unit_init` are memoised to the
unit root before `%unit_init` becomes a scope), so it is an implicit root block and its block-scoped
`x` is visible in every function of the unit; lexical scoping leaves `x` in `k` unresolved.  This is
the case excluded by hypothesis `himp` of `C05_resolver_innermost`.
Witness of known finding C05/js-toplevel-block-declarations-leak. -/
theorem C05_js_toplevel_block_leak :
    bindRows lastSegStr defaultOps w2Rows 7 "x" .use = some ⟨"x", 2, 3, false⟩ ∧
    implicitRoots (tableOf w2Rows).recs = [2, 9] ∧
    lexDecl (tableOf w2Rows).recs (declsOf w2Rows) (stmtScope (tableOf w2Rows) 7) "x" = none := by
  decide +kernel

/-- **`global` declaration ignored by the uses (Python).**  In `x = 1; def g(): x = 2; def h():
global x; return x` the `global_stmt` itself resolves to the module variable (statement 1) but the
`x` returned by `h` is bound to `g`'s local (statement 5).
Witness of known finding C05/py-global-decl-ignored-by-uses. -/
theorem C05_py_global_decl_ignored :
    bindRows lastSegStr defaultOps w3Rows 9 "x" .global = some ⟨"x", 0, 1, false⟩ ∧
    bindRows lastSegStr defaultOps w3Rows 10 "x" .use = some ⟨"x", 4, 5, false⟩ := by decide +kernel

/-- **class defined in a method of a nested class (pinned `correct_scopes`).**  `loc` read in `C.k`
is unresolved at the pinned commit (class `C`, statement 11, is re-homed to the outer class `A`, so
its scope path skips method `m`); the live code binds it to `m`'s local (statement 9). -/
theorem C05_unfixed_counterexample_nested_class :
    bindRows0 lastSegStr defaultOps w4Rows 17 "loc" .use = none ∧
    (scopeTable0 defaultOps (w4Rows.map Row.shape)).recs.contains ⟨11, 1, 8, .class_⟩ = true ∧
    bindRows lastSegStr defaultOps w4Rows 17 "loc" .use = some ⟨"loc", 8, 9, false⟩ ∧
    (tableOf w4Rows).recs.contains ⟨11, 8, 8, .class_⟩ = true := by decide +kernel

/-- `function f(c) { if (c) { var v = 1 } return v }` as the JavaScript frontend emits it
(tags: 1 method, 2 parameter c, 3 if, 4 `variable_decl v [var]`, 5 assignment, 6 return). -/
def wVar : List (Hoist.Stmt String) := [
  .mk "method_decl" (some "f") [] [
    ("parameters", [.mk "parameter_decl" (some "c") [] [] 2]),
    ("body", [
      .mk "if_stmt" none [] [("then_body", [
          .mk "variable_decl" (some "v") ["var"] [] 4,
          .mk "assign_stmt" none [] [] 5])] 3,
      .mk "return_stmt" (some "v") [] [] 6])] 1]

/-- **JavaScript `var` in a nested block (pinned `adjust_variable_decls`).**  The frozen model leaves
the declaration (tag 4) inside the if-block; the live model moves it to the top of the function body.
On the rows the two versions emit, `return v` is unresolved at the pinned commit and bound to the
declaration on the live rows. -/
theorem C05_unfixed_counterexample_js_var_block :
    Hoist.lin 50 (Hoist.hoist (Hoist.Cfg.pinned false) 50 wVar) = [1, -1, 2, -2, -1, 3, -1, 4, 5, -2, 6, -2] ∧
    Hoist.lin 50 (Hoist.hoist (Hoist.Cfg.current false) 50 wVar) = [1, -1, 2, -2, -1, 4, 3, -1, 5, -2, 6, -2] ∧
    bindRows lastSegStr defaultOps w5RowsPinned 9 "v" .use = none ∧
    bindRows lastSegStr defaultOps w5Rows 9 "v" .use = some ⟨"v", 4, 5, false⟩ := by decide +kernel

/-- `def f(p):` `try: q = p` `except Exception: r = 1` `return r` as the Python frontend emits it
(tags: 3 try, 4 decl q, 6 catch_clause, 7 `variable_decl r`, 9 return). -/
def wExc : List (Hoist.Stmt String) := [
  .mk "method_decl" (some "f") [] [
    ("parameters", [.mk "parameter_decl" (some "p") [] [] 2]),
    ("body", [
      .mk "try_stmt" none [] [
        ("body", [.mk "variable_decl" (some "q") [] [] 4, .mk "assign_stmt" none [] [] 5]),
        ("catch_body", [.mk "catch_clause" none [] [("body", [
            .mk "variable_decl" (some "r") [] [] 7, .mk "assign_stmt" none [] [] 8])] 6])] 3,
      .mk "return_stmt" (some "r") [] [] 9])] 1]

/-- **variable first assigned in an `except` clause (pinned `adjust_variable_decls`).**  The frozen
model never enters the `catch_clause`: the declaration of `r` (tag 7) stays in the handler block; the
live model hoists it to the top of the function body.  On the emitted rows, `return r` is unresolved
at the pinned commit and bound on the live rows. -/
theorem C05_unfixed_counterexample_py_except_assign :
    Hoist.lin 50 (Hoist.hoist (Hoist.Cfg.pinned true) 50 wExc)
      = [1, -1, 2, -2, -1, 4, 3, -1, 5, -2, -1, 6, -1, 7, 8, -2, -2, 9, -2] ∧
    Hoist.lin 50 (Hoist.hoist (Hoist.Cfg.current true) 50 wExc)
      = [1, -1, 2, -2, -1, 7, 4, 3, -1, 5, -2, -1, 6, -1, 8, -2, -2, 9, -2] ∧
    bindRows lastSegStr defaultOps w6RowsPinned 14 "r" .use = none ∧
    bindRows lastSegStr defaultOps w6Rows 14 "r" .use = some ⟨"r", 4, 5, false⟩ := by decide +kernel

/-- `def f(c, a):` / `    def g():` / `        nonlocal c, a` / `        a = 1` / `        c = 2` /
`        return a + c` / `    return g` — rows emitted at the PINNED commit: only `c` got a
`nonlocal_stmt`, `a` kept a local `variable_decl` (statement 8) in `g`. -/
def w7RowsPinned : List (Row String) := [
  ⟨"method_decl", 1, 0, some "f", none, none, none, none, some 2, none, some 5⟩,
  ⟨"block_start", 2, 1, none, none, none, none, none, none, none, none⟩,
  ⟨"parameter_decl", 3, 2, some "c", none, none, none, none, none, none, none⟩,
  ⟨"parameter_decl", 4, 2, some "a", none, none, none, none, none, none, none⟩,
  ⟨"block_end", 2, 1, none, none, none, none, none, none, none, none⟩,
  ⟨"block_start", 5, 1, none, none, none, none, none, none, none, none⟩,
  ⟨"method_decl", 6, 5, some "g", none, none, none, none, none, none, some 7⟩,
  ⟨"block_start", 7, 6, none, none, none, none, none, none, none, none⟩,
  ⟨"variable_decl", 8, 7, some "a", none, none, none, none, none, none, none⟩,
  ⟨"nonlocal_stmt", 9, 7, some "c", none, none, none, none, none, none, none⟩,
  ⟨"assign_stmt", 10, 7, none, none, none, none, none, none, none, none⟩,
  ⟨"assign_stmt", 11, 7, none, none, none, none, none, none, none, none⟩,
  ⟨"assign_stmt", 12, 7, none, none, none, none, none, none, none, none⟩,
  ⟨"return_stmt", 13, 7, some "%vv1", none, none, none, none, none, none, none⟩,
  ⟨"block_end", 7, 6, none, none, none, none, none, none, none, none⟩,
  ⟨"return_stmt", 14, 5, some "g", none, none, none, none, none, none, none⟩,
  ⟨"block_end", 5, 1, none, none, none, none, none, none, none, none⟩]

/-- the same program, rows emitted by the live code. -/
def w7Rows : List (Row String) := [
  ⟨"method_decl", 1, 0, some "f", none, none, none, none, some 2, none, some 5⟩,
  ⟨"block_start", 2, 1, none, none, none, none, none, none, none, none⟩,
  ⟨"parameter_decl", 3, 2, some "c", none, none, none, none, none, none, none⟩,
  ⟨"parameter_decl", 4, 2, some "a", none, none, none, none, none, none, none⟩,
  ⟨"block_end", 2, 1, none, none, none, none, none, none, none, none⟩,
  ⟨"block_start", 5, 1, none, none, none, none, none, none, none, none⟩,
  ⟨"method_decl", 6, 5, some "g", none, none, none, none, none, none, some 7⟩,
  ⟨"block_start", 7, 6, none, none, none, none, none, none, none, none⟩,
  ⟨"nonlocal_stmt", 8, 7, some "c", none, none, none, none, none, none, none⟩,
  ⟨"nonlocal_stmt", 9, 7, some "a", none, none, none, none, none, none, none⟩,
  ⟨"assign_stmt", 10, 7, none, none, none, none, none, none, none, none⟩,
  ⟨"assign_stmt", 11, 7, none, none, none, none, none, none, none, none⟩,
  ⟨"assign_stmt", 12, 7, none, none, none, none, none, none, none, none⟩,
  ⟨"return_stmt", 13, 7, some "%vv1", none, none, none, none, none, none, none⟩,
  ⟨"block_end", 7, 6, none, none, none, none, none, none, none, none⟩,
  ⟨"return_stmt", 14, 5, some "g", none, none, none, none, none, none, none⟩,
  ⟨"block_end", 5, 1, none, none, none, none, none, none, none, none⟩]

/-- **`nonlocal c, a` (pinned Python frontend).**  The frontend is not modelled; on the rows it
emitted at the pinned commit the assignment `a = 1` in `g` (statement 10) is bound to `g`'s own
declaration 8, on the rows the live frontend emits to `f`'s parameter (statement 4) — what Python selects. -/
theorem C05_unfixed_counterexample_py_nonlocal_second_name :
    bindRows lastSegStr defaultOps w7RowsPinned 10 "a" .use = some ⟨"a", 7, 8, false⟩ ∧
    bindRows lastSegStr defaultOps w7Rows 10 "a" .use = some ⟨"a", 1, 4, false⟩ := by decide +kernel

end LianVerif.C05
