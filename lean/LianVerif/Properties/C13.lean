/-
C13 — Analysis terminates within bounded time on every program.

The loops of the models (Model/Termination*.lean) are written without fuel, so each definition is itself
a termination proof; the closed forms of the bounds are in Spec/TerminationBounds.lean.

What the theorems are about: numbers of loop iterations.  NOT covered by any theorem here and only
monitored by the harness: the cost of ONE statement analysis (state creation, cartesian products of
operand states, `eval` of folded constants), pandas/feather I/O, wall-clock time.
-/
import LianVerif.Proofs.Termination
import LianVerif.Proofs.TerminationTotal
import LianVerif.Proofs.TerminationPrelim

namespace LianVerif.C13
open LianVerif.Termination

/-- **C13 (statement loop, one invocation, every worklist discipline, every statement analysis).**
The number of iterations of one invocation of `analyze_stmts` is at most
`|worklist| + Σ_v (lim v − cnt v)·outdeg v`, plus `outdeg s + 1` if the invocation ends in an
interruption at statement `s`.  `D` ranges over all worklist disciplines — in particular the real
one, where `pop` removes `work_list[0]` of a list that is a heap only by accident. -/
theorem C13_stmts_bound {ω γ : Type} (D : Discipline ω) (succ : Int → List Int) (V : List Int)
    (lim : Int → Nat) (analyse : Int → γ → γ × Bool) (w : ω) (cnt : Int → Nat) (g : γ) :
    visitSteps D succ V lim analyse w cnt g
      ≤ stmtsBound succ V lim cnt (D.size w)
        + allow succ (visitLoop D succ V lim analyse w cnt g).events := by
  rw [← rank_eq_stmtsBound D succ V lim w cnt]
  exact Nat.le_trans (Nat.le_add_right _ _) (visit_potential D succ V lim analyse w cnt g)

/-- the same in potential form, which composes over the successive invocations of one frame: what
an invocation spends is taken out of the ranking function of the frame. -/
theorem C13_stmts_potential {ω γ : Type} (D : Discipline ω) (succ : Int → List Int) (V : List Int)
    (lim : Int → Nat) (analyse : Int → γ → γ × Bool) (w : ω) (cnt : Int → Nat) (g : γ) :
    visitSteps D succ V lim analyse w cnt g
      + rank D succ V lim (visitLoop D succ V lim analyse w cnt g).w (visitLoop D succ V lim analyse w cnt g).cnt
      ≤ rank D succ V lim w cnt + allow succ (visitLoop D succ V lim analyse w cnt g).events :=
  visit_potential D succ V lim analyse w cnt g

theorem C13_stmts_allowance {ω γ : Type} (D : Discipline ω) (succ : Int → List Int) (V : List Int)
    (lim : Int → Nat) (analyse : Int → γ → γ × Bool) (dmax : Nat) (hd : ∀ s, (succ s).length ≤ dmax)
    (w : ω) (cnt : Int → Nat) (g : γ) :
    allow succ (visitLoop D succ V lim analyse w cnt g).events ≤ dmax + 1 ∧
    ((visitLoop D succ V lim analyse w cnt g).interrupted = false →
      allow succ (visitLoop D succ V lim analyse w cnt g).events = 0) :=
  ⟨allow_le D succ V lim analyse dmax hd w cnt g, allow_of_not_intr D succ V lim analyse w cnt g⟩

/-- **C13 (statement loop, fresh frame, the uniform form).**  With all counters at 0,
the same budget `R` for every statement and an initial worklist no larger than the method, a run
that is not interrupted performs at most `|V| + R·|E| ≤ (R+1)·(|V|+|E|)` iterations. -/
theorem C13_stmts_bound_uniform {ω γ : Type} (D : Discipline ω) (succ : Int → List Int) (V : List Int)
    (R : Nat) (analyse : Int → γ → γ × Bool) (w : ω) (g : γ) (hw : D.size w ≤ V.length)
    (hni : (visitLoop D succ V (fun _ => R) analyse w (fun _ => 0) g).interrupted = false) :
    visitSteps D succ V (fun _ => R) analyse w (fun _ => 0) g ≤ V.length + R * edgeCount succ V ∧
    V.length + R * edgeCount succ V ≤ stmtsBoundUniform R V.length (edgeCount succ V) := by
  have h1 := C13_stmts_bound D succ V (fun _ => R) analyse w (fun _ => 0) g
  have h2 := allow_of_not_intr D succ V (fun _ => R) analyse w (fun _ => 0) g hni
  have h3 : stmtsBound succ V (fun _ => R) (fun _ => 0) (D.size w) = D.size w + R * edgeCount succ V := by
    unfold stmtsBound edgeCount
    simp only [Nat.sub_zero]
    rw [sumOver_mul_left]
  refine ⟨by omega, ?_⟩
  unfold stmtsBoundUniform
  rw [Nat.add_mul, Nat.one_mul, Nat.mul_add]
  omega

/-- the theorem covers the real worklist: `heapq.heappush` on insertion, `list.pop(0)` on removal -/
theorem C13_stmts_bound_real_worklist {γ : Type} (succ : Int → List Int) (V : List Int)
    (lim : Int → Nat) (analyse : Int → γ → γ × Bool) (w : HeapWL) (cnt : Int → Nat) (g : γ) :
    visitSteps heapDiscipline succ V lim analyse w cnt g
      ≤ stmtsBound succ V lim cnt w.heap.length
        + allow succ (visitLoop heapDiscipline succ V lim analyse w cnt g).events :=
  C13_stmts_bound heapDiscipline succ V lim analyse w cnt g

/-! non-vacuity: a loop `1 → 2 → {3,5}`, `3 → 4 → 2`, `5 → exit(-1)` with R = 2.  Under the real
discipline the loop header 2 is never re-analysed and statement 4 is analysed twice in a row — the
bound holds all the same (8 iterations ≤ 13). -/
def exSucc : Int → List Int := fun s =>
  if s = 1 then [2] else if s = 2 then [3, 5] else if s = 3 then [4] else if s = 4 then [2]
  else if s = 5 then [-1] else []
def exPrio : List (Int × Nat) := [(1, 0), (2, 1), (3, 3), (4, 4), (5, 2), (-1, 5)]
def exRun := visitLoop heapDiscipline exSucc [1, 2, 3, 4, 5] (fun _ => 2)
  (fun (_ : Int) (g : Unit) => (g, false)) { heap := [(0, 1)], prio := exPrio } (fun _ => 0) ()

example : exRun.events = [.visit 1, .visit 2, .visit 3, .visit 5, .visit 4, .skip (-1), .visit 4, .skip 4] := by
  decide +kernel
example : stmtsBound exSucc [1, 2, 3, 4, 5] (fun _ => 2) (fun _ => 0) 1 = 13 := by decide +kernel

/-- **C13 (frames, for every behaviour of the statement analysis).**  For one entry point, whatever
`analyze_stmts` does (`R` is ANY runner obeying the two counter laws), starting from fresh call-site
counters the driver creates at most `1 + (B+1)·|U|` frames, is interrupted at most `(B+1)·|U|` times
and performs at most `4·(B+1)·|U| + 2` iterations, where `U` is the finite universe of call sites
`(caller, call statement, callee)`.  Hence recursion, mutual recursion and self-application cannot
make the driver diverge.  `hasBody` is an oracle as well (it sees the global state, the frame and the
time): whether, when and how often `init_compute_frame` fails is quantified over, so a callee that
can never be initialised (empty CFG) cannot make the driver spin either. -/
theorem C13_frames_bound {φ : Type} {U : List Site} {B : Nat} (R : Runner U B φ) (hasBody : Glob → Frame φ → Nat → Bool)
    (mkLoc : Int → φ) (entry : Int) (G : Glob) (hG : G.cnt = fun _ => 0) :
    framesCreated (driver R hasBody mkLoc [entryFrame mkLoc entry] G 0).1 ≤ framesBound B U.length ∧
    interruptions (driver R hasBody mkLoc [entryFrame mkLoc entry] G 0).1 ≤ intrBound B U.length ∧
    driverSteps R hasBody mkLoc entry G ≤ driverBound B U.length := by
  obtain ⟨hi, hp, hs⟩ := driver_account R hasBody mkLoc [entryFrame mkLoc entry] G 0
  have hb := budget_le U B G.cnt
  have hp0 : pendTotal [entryFrame mkLoc entry] = 0 := rfl
  have hw : stackWeight [entryFrame mkLoc entry] = 2 := rfl
  simp only [framesCreated_eq, framesBound, intrBound, driverSteps, driverBound, drank] at hs ⊢
  omega

/-- the instance the harness replays: raw callee requests from an ARBITRARY oracle (it may inspect
the whole global state, the frame and the time) filtered by the modelled cut-offs. -/
theorem C13_frames_bound_any_oracle (U : List Site) (B : Nat)
    (oracle : Glob → Frame Unit → Nat → List (Int × List Int)) (hasBody : Glob → Frame Unit → Nat → Bool) (entry : Int)
    (paths : PathStore.Store Site) :
    framesCreated (driver (scriptRunner U B oracle) hasBody (fun _ => ()) [entryFrame (fun _ => ()) entry]
        { cnt := fun _ => 0, paths := paths } 0).1 ≤ framesBound B U.length :=
  (C13_frames_bound (scriptRunner U B oracle) hasBody (fun _ => ()) entry
    { cnt := fun _ => 0, paths := paths } rfl).1

/-! non-vacuity: `f` (method 1) calls itself at statement 10 and `g` (method 2) at statement 11; the
oracle repeats the recursive request for ever.  The driver stops after 5 frames. -/
def exOracle : Glob → Frame Unit → Nat → List (Int × List Int) := fun _ f _ =>
  if f.method = 1 then [(10, [1]), (11, [2])] else []
def exU : List Site := [(1, 10, 1), (1, 11, 2)]
def exDrv := driver (scriptRunner exU 2 exOracle) (fun _ _ _ => true) (fun _ => ()) [entryFrame (fun _ => ()) 1]
  { cnt := fun _ => 0, paths := PathStore.Store.empty } 0

example : framesCreated exDrv.1 = 5 ∧ interruptions exDrv.1 = 4 ∧ maxPathLen exDrv.1 = 3
    ∧ framesBound 2 exU.length = 7 := by decide +kernel

/-- **C13 (call paths).**  For every runner that only descends into call sites accepted by the
modelled cut-offs (`PathSafe`: the oracle-driven runner and the composed runner both are), every
frame initialised for an entry point has a call path with at most one cycle, made of sites of `U`,
and therefore of length at most `|M| + 1`, `M` being any list containing the callees of `U`. -/
theorem C13_path_length {φ : Type} {U : List Site} {B : Nat} (R : Runner U B φ) (hR : PathSafe R)
    (hasBody : Glob → Frame φ → Nat → Bool) (mkLoc : Int → φ) (entry : Int) (G : Glob) (M : List Int)
    (hM : ∀ u ∈ U, u.2.2 ∈ M) :
    (∀ e ∈ (driver R hasBody mkLoc [entryFrame mkLoc entry] G 0).1, ∀ m p, e = DEv.init m p →
      countCycles p ≤ 1 ∧ p.length ≤ pathLenBound M.length) ∧
    maxPathLen (driver R hasBody mkLoc [entryFrame mkLoc entry] G 0).1 ≤ pathLenBound M.length := by
  have hall := driver_paths_ok R hR hasBody mkLoc [entryFrame mkLoc entry] G 0
    (.cons_fresh rfl rfl ⟨Nat.zero_le 1, nofun⟩ trivial)
  have key : ∀ m p, DEv.init m p ∈ (driver R hasBody mkLoc [entryFrame mkLoc entry] G 0).1 →
      countCycles p ≤ 1 ∧ p.length ≤ pathLenBound M.length :=
    fun m p he => ⟨(hall _ he).1, (hall _ he).length_le hM⟩
  exact ⟨fun e he m p hep => key m p (hep ▸ he), maxPathLen_le _ _ fun m p he => (key m p he).2⟩

theorem C13_path_length_any_oracle (U : List Site) (B : Nat)
    (oracle : Glob → Frame Unit → Nat → List (Int × List Int)) (hasBody : Glob → Frame Unit → Nat → Bool) (entry : Int)
    (G : Glob) (M : List Int) (hM : ∀ u ∈ U, u.2.2 ∈ M) :
    maxPathLen (driver (scriptRunner U B oracle) hasBody (fun _ => ()) [entryFrame (fun _ => ()) entry] G 0).1
      ≤ pathLenBound M.length :=
  (C13_path_length (scriptRunner U B oracle) (scriptRunner_pathSafe U B oracle) hasBody (fun _ => ())
    entry G M hM).2

/-! non-vacuity for failing initialisation: the same program, but method 2 has no body (its frames
are dropped by `init_compute_frame` every time they are scheduled). -/
def exDrvFail := driver (scriptRunner exU 2 exOracle)
  (fun _ f _ => f.method != 2) (fun _ => ())
  [entryFrame (fun _ => ()) 1] { cnt := fun _ => 0, paths := PathStore.Store.empty } 0

example : (exDrvFail.1.filter (fun e => match e with | .initFail _ => true | _ => false)).length = 2 ∧
    framesCreated exDrvFail.1 = 5 ∧ framesCreated exDrvFail.1 ≤ framesBound 2 exU.length ∧
    exDrvFail.1.length ≤ driverBound 2 exU.length := by decide +kernel

/-- **C13 (bottom-up driver).**  For every oracle of callee requests and every outcome of frame
initialisation (`hasBody` may make any frame fail at any time), one run of `analyze_method` —
written without fuel, so it terminates — is interrupted at most once per method of the universe `M`
that is neither analysed nor on the stack when it starts, hence at most `|M|` times, and performs
at most `4·|M| + 2` driver events (initialisations, interruptions, pushes, completions).  The model marks
a method analysed when its frame is dropped by a failing initialisation, exactly as the code does;
that mark is what the ranking function needs (a dropped callee must not be requested again). -/
theorem C13_prelim_bound (M : List Int) (hasBody : List Int → List PFrame → Nat → Bool)
    (oracle : List Int → List PFrame → Nat → List (Int × List Int)) (root : Int) (analyzed : List Int) :
    pInterruptions (prelimDriver M hasBody oracle [{ method := root, inited := false }] analyzed 0).1
      ≤ M.length ∧
    (prelimDriver M hasBody oracle [{ method := root, inited := false }] analyzed 0).1.length
      ≤ 4 * M.length + 2 := by
  obtain ⟨h1, h2⟩ := prelim_account M hasBody oracle [{ method := root, inited := false }] analyzed 0
  have h3 : pFree M analyzed [{ method := root, inited := false }] ≤ M.length := ind_sum_le _ M
  have h4 : pWeight [{ method := root, inited := false }] = 2 := rfl
  unfold prank at h2
  omega

/-! non-vacuity: `main` (1) calls the stub `hook` (2), whose frame can never be initialised, at
statement 10 on every invocation, and itself; the driver is interrupted once and stops. -/
def exPrelim := prelimDriver [1, 2] (fun _ st _ => match st with | f :: _ => f.method != 2 | [] => true)
  (fun _ _ _ => [(10, [2, 1])]) [{ method := 1, inited := false }] [] 0

example : exPrelim.1 = [.init 1, .intr 1 10 [2], .push 2, .initFail 2, .done 1] ∧ exPrelim.2 = [1, 2] := by
  decide +kernel

/-- **C13 (taint queue).**  From any seeded state whose queue holds node indices, one propagation
dequeues at most `(|slots|·|bits| + |nodes| + |queue₀|)·(1 + A)` nodes, `A` being the largest
number of unconditional (`SYMBOL_IS_USED`) enqueues a single node triggers. -/
theorem C13_taint_bound (T : TGraph) (st : TState) (h : queueOk T st.queue = true) :
    taintSteps T st ≤ taintBound T.slots.length T.bits.length T.n st.queue.length (wmax T) :=
  Nat.le_trans (taint_steps_le T st) (trank_le_bound T st h)

/-! non-vacuity: symbol 0 –used→ stmt 1 –defines→ symbol 2 –flows→ symbol 0 (a cycle), one bit. -/
def exT : TGraph :=
  { n := 3, slots := [0, 1], bits := [1],
    src := fun u => if u = 0 then [0] else if u = 1 then [0] else [1],
    acts := fun u => if u = 0 then [.always 1] else if u = 1 then [.grow 2 1 true] else [.grow 0 0 false] }
def exTState : TState := { tags := fun s => if s = 0 then [1] else [], queue := [0], processed := [] }

example : (taintLoop exT exTState).1 = [0, 1, 2] ∧
    taintBound exT.slots.length exT.bits.length exT.n 1 (wmax exT) = 12 := by decide +kernel

/-- **C13 (closure).**  A worklist closure that marks a node when it first pops it and pushes only
unmarked neighbours pops at most `|worklist₀| + |E|` times, on every graph (cycles included) and for
every worklist discipline. -/
theorem C13_closure_bound {ω : Type} (D : Discipline ω) (next : Int → List Int) (N : List Int) (w : ω) :
    closureSteps D next N w ≤ closureBound (D.size w) (sumOver (fun v => (next v).length) N) :=
  Nat.le_trans (closure_steps_le D next N w []) (Nat.le_of_eq (Nat.add_comm _ _))

example : (closureLoop fifoDiscipline (fun x => if x = 1 then [2, 3] else if x = 2 then [1] else [])
    [1, 2, 3] [1] []).pops = [1, 2, 3] := by decide +kernel

/-- **C13 (total, top-down phase, one entry point).**  Plug the statement loop into the driver
(`visitRunner`): every frame runs `visitLoop` on its own worklist and counters, and ANY oracle `calls`
decides which callees each analysed statement requests.  If a fresh frame of any method has ranking
value at most `nV + R·nE` (e.g. at most `nV` initial worklist entries, `nE` CFG edges and budget `R`
per statement) and no statement has more than `dmax` successors, then the number of statement-loop
iterations of ALL frames plus the number of driver iterations is at most

    framesBound·(nV + R·nE) + intrBound·(dmax + 1) + driverBound
      = (1 + (B+1)|U|)(nV + R·nE) + (B+1)|U|(dmax + 1) + 4(B+1)|U| + 2,

a polynomial in (statements, CFG edges, call sites) for fixed `R`, `B`. -/
theorem C13_total_polynomial {ω : Type} (U : List Site) (B : Nat) (P : Prog ω) (R nV nE dmax : Nat)
    (hK : ∀ m, stmtsBound (P.succ m) (P.V m) (P.lim m) (P.init m).cnt (P.D.size (P.init m).w) ≤ nV + R * nE)
    (hd : ∀ m s, (P.succ m s).length ≤ dmax) (hasBody : Glob → Frame (VLoc ω) → Nat → Bool) (entry : Int) (G : Glob)
    (hG : G.cnt = fun _ => 0) :
    innerCost (driver (visitRunner U B P) hasBody P.init [entryFrame P.init entry] G 0).1
      + driverSteps (visitRunner U B P) hasBody P.init entry G
      ≤ entryBound R B U.length nV nE dmax := by
  have hK' : ∀ m, rank P.D (P.succ m) (P.V m) (P.lim m) (P.init m).w (P.init m).cnt ≤ nV + R * nE :=
    fun m => rank_eq_stmtsBound P.D (P.succ m) (P.V m) (P.lim m) (P.init m).w (P.init m).cnt ▸ hK m
  have h1 := innerCost_le U B P _ dmax hK' hd hasBody [entryFrame P.init entry] G 0
  obtain ⟨hf, hi, hs⟩ := C13_frames_bound (visitRunner U B P) hasBody P.init entry G hG
  have hr : sumOver (frameRank P) [entryFrame P.init entry] ≤ nV + R * nE := hK' entry
  simp only [framesCreated_eq, framesBound, intrBound, driverBound] at hf hi hs
  simp only [entryBound, framesBound, intrBound, driverBound]
  refine Nat.add_le_add (Nat.le_trans h1 (Nat.add_le_add ?_ (Nat.mul_le_mul_right _ hi))) hs
  rw [Nat.add_mul, Nat.one_mul]
  exact Nat.add_le_add hr (Nat.mul_le_mul_right _ (Nat.le_of_add_le_add_left hf))

theorem C13_total_path_length {ω : Type} (U : List Site) (B : Nat) (P : Prog ω) (hasBody : Glob → Frame (VLoc ω) → Nat → Bool)
    (entry : Int) (G : Glob) (M : List Int) (hM : ∀ u ∈ U, u.2.2 ∈ M) :
    maxPathLen (driver (visitRunner U B P) hasBody P.init [entryFrame P.init entry] G 0).1
      ≤ pathLenBound M.length :=
  (C13_path_length (visitRunner U B P) (visitRunner_pathSafe U B P) hasBody P.init entry G M hM).2

/-! non-vacuity: two methods; method 1 has statements 10 → 11 → 12, statement 11 requests callees
[2, 1] (a call to method 2 and a recursive call); method 2 has the single statement 20. -/
def exProg : Prog (List Int) :=
  { D := fifoDiscipline,
    succ := fun m s => if m = 1 then (if s = 10 then [11] else if s = 11 then [12] else []) else [],
    V := fun m => if m = 1 then [10, 11, 12] else [20],
    lim := fun _ _ => 2,
    init := fun m => { w := if m = 1 then [10] else [20], cnt := fun _ => 0 },
    calls := fun m s _ _ => if m = 1 ∧ s = 11 then [2, 1] else [] }
def exTotU : List Site := [(1, 11, 2), (1, 11, 1)]
def exTot := driver (visitRunner exTotU 2 exProg) (fun _ _ _ => true) exProg.init [entryFrame exProg.init 1]
  { cnt := fun _ => 0, paths := PathStore.Store.empty } 0

example : innerCost exTot.1 = 15 ∧ exTot.1.length = 20 ∧ framesCreated exTot.1 = 6 ∧
    maxPathLen exTot.1 = 3 ∧ entryBound 2 2 exTotU.length 1 2 1 = 73 := by decide +kernel

/-- frozen model of constant folding in `StmtStates.compute_two_states` as far as sizes go:
`util.strict_eval(f"{v1} {op} {v2}")` with CPython integer semantics and NO operand-size guard. -/
def fold0 (op : String) (a b : Nat) : Nat :=
  if op = "**" then a ^ b else if op = "<<" then a * 2 ^ b else if op = "*" then a * b else a + b

/-- the straight-line program `x0 = 10; x1 = x0 ** 10; …; xk = x(k-1) ** 10` (k+1 statements) -/
def foldChain0 : Nat → Nat
  | 0 => 10
  | k + 1 => fold0 "**" (foldChain0 k) 10

/-- **negative.**  The constant folded for a program of `k+1`
statements has `10^k + 1` decimal digits: the size of folded values — hence the cost of one
statement analysis, and of every later `str()` of the value — is exponential in the program size;
no polynomial bound on the whole run exists while folding is unguarded. -/
theorem C13_fold_unbounded (k : Nat) : foldChain0 k = 10 ^ (10 ^ k) := by
  induction k with
  | zero => rfl
  | succ k ih =>
    simp only [foldChain0, fold0, if_true, ih]
    rw [← Nat.pow_mul, Nat.pow_succ]

/-- the witness of known finding C13/fold-crash: `a=9; b=a**9; c=b**99999` folds `c` to a value of
more than 4300 digits, which CPython refuses to convert to `str` (ValueError) in the f-string of the
next folding step. -/
theorem C13_unfixed_counterexample_fold_crash :
    fold0 "**" (fold0 "**" 9 9) 99999 ≥ 10 ^ 4300 := by
  have h1 : fold0 "**" 9 9 ≥ 10 ^ 8 := by decide +kernel
  have h2 : fold0 "**" (fold0 "**" 9 9) 99999 = (fold0 "**" 9 9) ^ 99999 := by
    simp only [fold0, if_true]
  rw [h2]
  calc 10 ^ 4300 ≤ 10 ^ (8 * 99999) := Nat.pow_le_pow_right (by decide) (by decide)
    _ = (10 ^ 8) ^ 99999 := Nat.pow_mul 10 8 99999
    _ ≤ (fold0 "**" 9 9) ^ 99999 := Nat.pow_le_pow_left h1 99999

/-- frozen model of the tail of `ControlFlowAnalysis.analyze_while_stmt` (pinned commit):
`last_stmts` = the `break`s of the body plus the loop-false exit unless the condition is the literal
`True`; with an `else` body the code executes `last_stmts.pop()` unconditionally. -/
def whileLast0 (condIsTrue : Bool) (breaks : List Nat) (loopId : Nat) (elseLast : Option (List Nat)) :
    Except String (List Nat) :=
  let lastStmts := breaks ++ (if condIsTrue then [] else [loopId])
  match elseLast with
  | none => .ok lastStmts
  | some e =>
    if lastStmts.isEmpty then .error "IndexError: pop from empty list"
    else .ok (lastStmts.dropLast ++ e)

/-- **negative (known finding C13/while-true-else).**  `while True: <no break> else: …` makes the
pinned code pop from an empty list; the exception aborts the whole semantic phase. -/
theorem C13_unfixed_counterexample_while_true_else :
    whileLast0 true [] 7 (some [9]) = .error "IndexError: pop from empty list" := rfl

end LianVerif.C13
