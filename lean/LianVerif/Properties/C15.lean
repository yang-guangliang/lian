/-
C15 — Every result saved through the loader is what later reads and the files return.

Models: LianVerif/Model/Lru.lean, Loader.lean (`step` = repaired code in /repo, `step0` = pinned commit),
        MapLoader.lean (`step` / `step0`).
Spec:   LianVerif/Spec/LoaderSpec.lean ("latest save wins").

Standing hypotheses of the positive loader theorems (all are configuration facts, not facts about
the history): every bundle is writable (`hw`; the state-flow-graph family violates it — see
`C15_failed_write_*`), and the subclass queries a column it writes (`hq`).  The serialiser round trip
(flatten → feather → query → unflatten) is outside the model (DESIGN §5 C15, `RoundTrip`).
Capacities, `maxRows`, `cachesExported`, `hasSchema` are arbitrary.  Histories contain no bare `restore` (it reads
an index file that later saves have outdated; `reopen` = export, export_indexing, fresh loader, restore is the
supported way), and `C15_get_latest` also excludes `reopen`.
-/
import LianVerif.Proofs.Loader
import LianVerif.Proofs.MapLoader

namespace LianVerif.C15
open LianVerif.Loader LianVerif.LoaderSpec
open LianVerif.Lru (alookup aerase akeys Lru)

variable {K R : Type} [DecidableEq K]

/-- **C15 (reads return the latest save).** For every configuration (any item/bundle cache capacity,
any `MAX_ROWS`, with or without caching of exported bundles) and every history of
save / get / contain / export / export_indexing / remove_unit_id operations on a fresh loader, every
read returns the rows most recently saved for that id — from the item cache, the active bundle, the
bundle cache or a bundle file, whatever evictions and exports happened in between — `None` for an id
never saved (or removed), and `contain` is exact.  (An item saved *without rows* may read as `[]`.) -/
theorem C15_get_latest (cfg : Cfg K R) (hw : ∀ b, cfg.writable b = true) (hq : cfg.queryOk = true)
    (ops : List (Op K R)) (hn : noReopen ops = true) :
    RunOk false Spec.empty ops (run (step cfg) (L.init cfg) ops).2 :=
  (run_ok cfg hw hq ops _ _ (inv_init false cfg) fun op h =>
    ⟨(noReopen_mem hn op h).1, fun _ => (noReopen_mem hn op h).2⟩).2

/-- **C15 (a reopened loader returns what was saved).** The same for histories that also contain
`reopen` (`export(); export_indexing();` then a *fresh* loader that `restore_indexing()`s from the
files, any number of times, anywhere): every later read still returns the latest save.  The only
weakening: an item saved without rows, which is never written anywhere, may read as `None`. -/
theorem C15_restore_equal (cfg : Cfg K R) (hw : ∀ b, cfg.writable b = true) (hq : cfg.queryOk = true)
    (ops : List (Op K R)) (hn : noRestore ops = true) :
    RunOk true Spec.empty ops (run (step cfg) (L.init cfg) ops).2 :=
  (run_ok cfg hw hq ops _ _ (inv_init true cfg) fun op h => ⟨noRestore_mem hn op h, nofun⟩).2

/-- the zero-row corner, spelled out: after any history and a reopen, a read of an id whose latest
save had rows returns exactly those rows; only an id saved without rows may come back as `None`/`[]`. -/
theorem C15_zero_rows_partial (cfg : Cfg K R) (hw : ∀ b, cfg.writable b = true) (hq : cfg.queryOk = true)
    (ops : List (Op K R)) (hn : noRestore ops = true) (k : K) :
    let s := (run (step cfg) (L.init cfg) (ops ++ [.reopen])).1
    match specRun Spec.empty ops k with
    | none => (get cfg s k).2 = .none
    | some [] => (get cfg s k).2 = .item [] ∨ (get cfg s k).2 = .notFound ∨ (get cfg s k).2 = .none
    | some (r :: rs) => (get cfg s k).2 = .item (r :: rs) := by
  intro s
  have hinv := (run_ok (g := true) cfg hw hq (ops ++ [Op.reopen]) _ _ (inv_init true cfg) <|
    List.forall_mem_append.2 ⟨fun op h => ⟨noRestore_mem hn op h, nofun⟩, by simp⟩).1
  rw [specRun_append_reopen] at hinv
  have hg := (get_ok cfg hq hinv k).2
  generalize specRun (Spec.empty : Spec K R) ops k = e at hg ⊢
  match e, hg with
  | none, hg => exact hg
  | some [], hg => exact hg.imp_right (Or.imp_right And.right)
  | some (_ :: _), hg => exact hg

/-- **C15 (the files contain every saved item).** After any history followed by `export()`, every id
whose latest save has at least one row is indexed to a bundle number whose file exists, is readable
and holds exactly those rows for the id. -/
theorem C15_files_contain_all (cfg : Cfg K R) (hw : ∀ b, cfg.writable b = true) (hq : cfg.queryOk = true)
    (ops : List (Op K R)) (hn : noRestore ops = true) (k : K) (r : R) (rs : List R)
    (hk : specRun Spec.empty ops k = some (r :: rs)) :
    let s := doExport cfg (run (step cfg) (L.init cfg) ops).1
    ∃ b bf, alookup k s.index = some (some b) ∧ alookup b s.disk = some (some bf) ∧
      alookup k bf.items = some (r :: rs) := by
  intro s
  obtain ⟨hinv, hlen⟩ := export_ok cfg hw
    (run_ok cfg hw hq ops _ _ (inv_init true cfg) fun op h => ⟨noRestore_mem hn op h, nofun⟩).1
  rcases hinv.holds k with ⟨_, he⟩ | ⟨_, he, _⟩ | ⟨b, bf, hi, _, hd, _, he⟩ <;> rw [hk] at he
  · cases he
  · -- indexed as active after `export`: the active bundle has no rows left
    rw [hinv.rowsOf_active hlen k] at he
    cases he
  · refine ⟨b, bf, hi, hd, ?_⟩
    have hr := Option.some.inj he
    unfold rowsOf at hr
    cases hb : alookup k bf.items with
    | none => rw [hb] at hr; cases hr
    | some rows => rw [hb] at hr; exact congrArg some hr.symm

set_option linter.unusedSectionVars false in
/-- **C15 (a failed write is reported).** Whenever `export()` has something to write and the write is
refused, the console log grows by exactly the report of that bundle, and the bundle's file is left
unreadable. -/
theorem C15_failed_write_reported (cfg : Cfg K R) (s : L K R) (hpos : s.activeLen > 0)
    (hfail : cfg.writable s.active = false) :
    (doExport cfg s).log = s.log ++ [.writeFailed s.bundleCount] ∧
    alookup s.bundleCount (doExport cfg s).disk = some none := by
  unfold doExport
  rw [if_pos hpos]
  dsimp only
  rw [hfail]
  exact ⟨rfl, (Lru.alookup_aset _ _ _ _).trans (if_pos rfl)⟩

set_option linter.unusedSectionVars false in
/-- … and a write that succeeds reports nothing. -/
theorem C15_good_write_silent (cfg : Cfg K R) (s : L K R) (hw : ∀ b, cfg.writable b = true) :
    (doExport cfg s).log = s.log := by
  unfold doExport
  by_cases hpos : s.activeLen > 0
  · rw [if_pos hpos]; exact if_pos (hw _)
  · rw [if_neg hpos]

def cfgT : Cfg Nat Nat := { maxRows := 2, itemCap := 1, bundleCap := 1 }

-- non-vacuity: active bundle, item cache, re-save, automatic export at the row limit, bundle cache, eviction, disk
example : (run (step cfgT) (L.init cfgT)
    [.save 1 [10], .get 1, .save 1 [11], .get 1, .save 2 [20, 21], .get 1, .save 3 [30, 31, 32], .get 2, .get 1,
     .get 9, .contain 2, .removeUnit 2, .get 2, .reopen, .get 1, .get 3]).2
    = [.unit, .got (.item [10]), .unit, .got (.item [11]), .unit, .got (.item [11]), .unit, .got (.item [20, 21]),
       .got (.item [11]), .got .none, .bool true, .removed .ok, .got .none, .unit, .got (.item [11]),
       .got (.item [30, 31, 32])] := by decide +kernel

example : noReopen [Op.save (1 : Nat) [(10 : Nat)], .get 1, .exp] = true ∧
    noRestore [Op.save (1 : Nat) [(10 : Nat)], .reopen, .get 1] = true := by decide +kernel

-- the zero-row corner is real: an item saved without rows reads as `None` after reopening
example : (run (step cfgT) (L.init cfgT) [.save 1 [], .get 1, .reopen, .get 1, .contain 1]).2
    = [.unit, .got (.item []), .unit, .got .none, .bool true] := by decide +kernel

/-- save(1,A); get(1); save(1,B); get(1) → A: `save` did not invalidate the item cache. -/
theorem C15_unfixed_counterexample :
    (run (step0 cfgT) (L.init cfgT) [.save 1 [10], .get 1, .save 1 [20], .get 1]).2
      = [.unit, .got (.item [10]), .unit, .got (.item [10])] ∧
    (run (step cfgT) (L.init cfgT) [.save 1 [10], .get 1, .save 1 [20], .get 1]).2
      = [.unit, .got (.item [10]), .unit, .got (.item [20])] := by
  decide +kernel

/-- save(1, rows); save(1, no rows); export(); get(1) → the process quits: `active_bundle_length` was
never reduced, so a bundle without rows — a table without columns — was written and then queried. -/
theorem C15_unfixed_counterexample_empty_bundle :
    (run (step0 { cfgT with maxRows := 100 }) (L.init cfgT) [.save 1 [10], .save 1 [], .exp, .get 1]).2
      = [.unit, .unit, .unit, .got .quit] ∧
    (run (step { cfgT with maxRows := 100 }) (L.init cfgT) [.save 1 [10], .save 1 [], .exp, .get 1]).2
      = [.unit, .unit, .unit, .got (.item [])] := by decide +kernel

/-- an id that a restored index marks as active made `remove_unit_id` raise `KeyError`. -/
theorem C15_unfixed_counterexample_remove_restored :
    (run (step0 cfgT) (L.init cfgT) [.save 1 [], .reopen, .removeUnit 1]).2 = [.unit, .unit, .removed .keyError] ∧
    (run (step cfgT) (L.init cfgT) [.save 1 [], .reopen, .removeUnit 1]).2 = [.unit, .unit, .removed .ok] := by
  decide +kernel

/-- a subclass that queries a column it never writes (`ClassIDToMembersLoader` at the pinned commit,
`queryOk = false`): every read of an exported id quits the process. -/
theorem C15_query_column_mismatch_quits :
    (run (step { cfgT with queryOk := false }) (L.init cfgT) [.save 1 [10], .exp, .get 1]).2
      = [.unit, .unit, .got .quit] := by decide +kernel

/-- OPEN FINDING `C15/sfg-p3-not-persisted`, on the model: when the write is refused the saved item is
still served from the bundle cache, is gone as soon as that bundle is evicted, and is gone for a
reopened loader — although the only trace is one console line. -/
theorem C15_failed_write_lost_after_eviction :
    (run (step { cfgT with writable := fun _ => false }) (L.init cfgT)
      [.save 1 [10, 11, 12], .get 1, .save 2 [20, 21, 22], .get 2, .get 1]).2
      = [.unit, .got (.item [10, 11, 12]), .unit, .got (.item [20, 21, 22]), .got .loadError] ∧
    (run (step { cfgT with writable := fun _ => false }) (L.init cfgT)
      [.save 1 [10, 11, 12], .reopen, .get 1]).2 = [.unit, .unit, .got .loadError] := by decide +kernel

section lru
variable {V : Type}

/-- **C15 (LRU cache).** For every capacity and every history of get / contain / put / remove from the
empty cache: a hit always returns the value of the latest `put` for that key (never a stale one),
`contain` is only true for keys that have a live `put`, the cache never holds more than `capacity`
entries and never two entries for one key. -/
theorem C15_lru_spec (cap : Nat) (ops : List (Lru.Op K V)) :
    LruSpec.RunOk (fun _ => none) ops (Lru.run (Lru.empty cap : Lru K V) ops).2 ∧
    (∀ p ∈ (Lru.run (Lru.empty cap : Lru K V) ops).1.items, LruSpec.specRun (fun _ => none) ops p.1 = some p.2) ∧
    (Lru.run (Lru.empty cap : Lru K V) ops).1.items.length ≤ cap ∧
    (akeys (Lru.run (Lru.empty cap : Lru K V) ops).1.items).Nodup := by
  obtain ⟨hinv, hrun⟩ := Lru.lru_run_ok ops _ _ (Lru.linv_empty cap)
  exact ⟨hrun, hinv.fresh, Nat.le_trans hinv.size (Nat.le_of_eq (Lru.run_cap ops _)), hinv.nodup⟩

/-- a value just put is the next hit, for every capacity ≥ 1 (the cache is not trivially empty) -/
theorem C15_lru_hit_after_put (c : Lru K V) (hcap : 1 ≤ c.cap) (k : K) (v : V) :
    ((c.put k v).get k).2 = some v := by
  rw [Lru.get_snd]
  -- the new entry is last, and nothing before it has key `k`
  have key : ∀ l : List (K × V), (∀ p ∈ l, p.1 ≠ k) → alookup k (l ++ [(k, v)]) = some v := fun l hl => by
    have hnone : alookup k l = none :=
      Lru.alookup_none_iff.2 fun hm => let ⟨p, hp, e⟩ := List.mem_map.1 hm; hl p hp e
    rw [Lru.alookup_append, hnone, Lru.alookup_cons, if_pos rfl]; rfl
  have hne : ∀ p ∈ aerase k c.items, p.1 ≠ k := fun p hp => (Lru.mem_aerase.1 hp).2
  simp only [Lru.put, Lru.lookup]
  split
  · -- over capacity: the evicted entry is the head, and the list has at least two entries
    rename_i hgt
    cases hl : aerase k c.items with
    | nil => rw [hl] at hgt; exact absurd hgt (Nat.not_lt.2 hcap)
    | cons q l => exact key l fun p hp => hne p (hl ▸ List.mem_cons_of_mem _ hp)
  · exact key _ hne

example : (Lru.run (Lru.empty 2 : Lru Nat Nat) [.put 1 10, .put 2 20, .get 1, .put 3 30, .get 2, .get 1, .put 1 11, .get 1]).2.map (·.1)
    = [.unit, .unit, .val (some 10), .unit, .val none, .val (some 10), .unit, .val (some 11)] := by decide +kernel

end lru

section maps
variable {A B : Type} [DecidableEq A] [DecidableEq B]
open LianVerif.MapLoader LianVerif.MapSpec

/-- **C15 (map loaders).** For every history of save / lookups / export on a fresh
`OneToManyMapLoader`: `convert_one_to_many` returns the list most recently saved for the id — an empty
list included — and `convert_many_to_one` never names an id whose current list lacks the element. -/
theorem C15_map_get_latest (ops : List (MapLoader.Op A B)) (hn : MapSpec.noRestore ops = true) :
    MapSpec.RunOk (fun _ => []) ops (MapLoader.run MapLoader.step (M.init : M A B) ops).2 :=
  map_run_ok ops _ _ MapLoader.inv_init hn

example : (MapLoader.run MapLoader.step (M.init : M Nat Nat)
    [.save 1 [10, 11], .save 1 [11], .manyToOne 10, .manyToOne 11, .save 1 [], .oneToMany 1, .manyToOne 11]).2
    = [.unit, .unit, .one none, .one (some 1), .unit, .many [], .one none] := by decide +kernel

/-- pinned commit: an empty list does not replace the earlier one … -/
theorem C15_map_unfixed_counterexample_empty :
    (MapLoader.run MapLoader.step0 (M.init : M Nat Nat) [.save 1 [10, 11], .save 1 [], .oneToMany 1]).2
      = [.unit, .unit, .many [10, 11]] ∧
    (MapLoader.run MapLoader.step (M.init : M Nat Nat) [.save 1 [10, 11], .save 1 [], .oneToMany 1]).2
      = [.unit, .unit, .many []] := by
  decide +kernel

/-- … and reverse entries of a replaced list stay. -/
theorem C15_map_unfixed_counterexample_reverse :
    (MapLoader.run MapLoader.step0 (M.init : M Nat Nat) [.save 1 [10, 11], .save 1 [11], .manyToOne 10]).2
      = [.unit, .unit, .one (some 1)] ∧
    (MapLoader.run MapLoader.step (M.init : M Nat Nat) [.save 1 [10, 11], .save 1 [11], .manyToOne 10]).2
      = [.unit, .unit, .one none] := by
  decide +kernel

end maps

end LianVerif.C15
