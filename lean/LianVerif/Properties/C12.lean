/-
C12 — Results are invariant under meaning-preserving edits of the input.

C12 has no model of its own for the analyser: it is a family of EQUIVARIANCE lemmas
`M (edit x) = edit' (M x)` about the models that exist (scope / resolver pipeline of C05, CFG model of
C04, `add_main_func` of C03), one group per kind of edit, plus the text-level model of the Python import
preprocessor.

Models: LianVerif/Model/Meta.lean        (`MRow`, `relocate` / `rename` / `renumber`, `toScopeRow`, `mapS` …)
        LianVerif/Model/PyImportPre.lean (`preprocess` = live code in /repo, `preprocess0` = pinned commit)
What is NOT here: no equivariance theorem is stated for the models of call graph construction (C07) and
of the taint engine (C10/C11), since nothing models the passes that produce their inputs; for them C12
is covered by the metamorphic monitor of harness/lv/c12.py only.
-/
import LianVerif.Proofs.MetaPyImport
import LianVerif.Proofs.MetaRows
import LianVerif.Proofs.MetaResolver
import LianVerif.Proofs.MetaCfg
import LianVerif.Proofs.MetaMainFunc
import LianVerif.Proofs.MetaSummary
import LianVerif.Properties.C05

namespace LianVerif.C12
open LianVerif.Meta LianVerif.Scopes LianVerif.Resolver LianVerif.PyImportPre

/-- **C12_lines (rows).**  The row the scope / resolver models read does not contain a location:
changing `start_row / start_col / end_row / end_col` (and Python's `decorators` row) of every row by
ANY map, or erasing them, changes nothing the models see. -/
theorem C12_lines_rows (m : Nat → Nat) (d : Bool) (rows : List MRow) :
    (rows.map (relocate m d)).map toScopeRow = rows.map toScopeRow ∧
    (rows.map eraseLoc).map toScopeRow = rows.map toScopeRow :=
  ⟨toScopeRows_congr (toScopeRow_relocate m d) rows, toScopeRows_congr toScopeRow_eraseLoc rows⟩

/-- **C12_lines (bindings).**  Hence the whole per-unit pipeline — `discover_scopes`, `correct_scopes`,
`summarize_symbol_decls`, resolver, def-use rule — gives every occurrence the same declaration
statement before and after the text was moved. -/
theorem C12_lines (m : Nat → Nat) (d : Bool) (lastSeg : String → Option String) (t : OpTable)
    (rows : List MRow) (stmt : Nat) (n : String) (mode : Mode) :
    bindRows lastSeg t ((rows.map (relocate m d)).map toScopeRow) stmt n mode =
      bindRows lastSeg t (rows.map toScopeRow) stmt n mode := by
  rw [toScopeRows_congr (toScopeRow_relocate m d)]

/-- **C12_lines (`add_main_func`).**  The synthetic `%unit_init` wrapper is built without looking at a
location attribute: erasing the four location attributes before or after the pass is the same. -/
theorem C12_lines_main_func (P : MainFunc.Params) (rows : Gir.Rows) :
    MainFunc.addMainFunc P (rows.map eraseLocG) = (MainFunc.addMainFunc P rows).map eraseLocG :=
  addMainFunc_map eraseLocG_attrOnly P (fun _ => by simp [eraseLocG, Gir.initDecl, locKeys])
    (fun _ _ => rfl) (fun _ _ => rfl) rows

/-- **C12_lines (report).**  `source_line` / `sink_line` are `start_row + 1`. -/
theorem C12_lines_report (startRow δ : Nat) : reportLine (startRow + δ) = reportLine startRow + δ :=
  Nat.add_right_comm startRow δ 1

section Rename
variable {ν μ : Type} [DecidableEq ν] [DecidableEq μ]

/-- **C12_rename (all occurrences of an identifier in the unit: functions, classes, unit-wide names).**
On real rows (`MRow`): renaming the identifier items of every row by an injective `σ` that keeps empty
text empty and commutes with "last dotted segment" makes the pipeline bind the renamed occurrence to the
same declaration statement, in the same scope, under the renamed name.  (Repackaging of `C05_alpha`
through `toScopeRow`.) -/
theorem C12_rename (σ : String → String) (hinj : Function.Injective σ) (hσ : ∀ s, (σ s).isEmpty = s.isEmpty)
    (hseg : ∀ a, lastSegStr (σ a) = (lastSegStr a).map σ)
    (t : OpTable) (rows : List MRow) (stmt : Nat) (n : String) (mode : Mode) :
    bindRows lastSegStr t ((rows.map (rename σ)).map toScopeRow) stmt (σ n) mode =
      (bindRows lastSegStr t (rows.map toScopeRow) stmt n mode).map (Decl.map σ) := by
  rw [toScopeRows_rename σ hσ]
  exact C05.C05_alpha σ hinj lastSegStr lastSegStr hseg t (rows.map toScopeRow) stmt n mode

/-- **C12_rename (to a fresh name).**  The edit replaces `a` by `b` and touches nothing else
(`renOne`).  When `b` is fresh — it is not the name or alias of any row — that is the same as applying
the transposition of `a` and `b`, which is injective: every occurrence `n ≠ b` keeps its declaration
statement and scope. -/
theorem C12_rename_fresh (a b : ν) (lastSeg : ν → Option ν)
    (hseg : ∀ x, lastSeg (swapName a b x) = (lastSeg x).map (swapName a b))
    (t : OpTable) (rows : List (Row ν)) (hfresh : FreshIn b rows) (stmt : Nat) (n : ν) (hn : n ≠ b) (mode : Mode) :
    bindRows lastSeg t (rows.map (Row.map (renOne a b))) stmt (renOne a b n) mode =
      (bindRows lastSeg t rows stmt n mode).map (Decl.map (swapName a b)) :=
  bindRows_renOne a b lastSeg t rows (fun _ _ x _ => hseg x) hfresh stmt hn mode

/-- **C12_rename (ONE local variable / parameter, i.e. one declaration).**  Rename the declaration made
by statement `d0` from `n` to a fresh `n'`, together with exactly the occurrences bound to it.
(a) those occurrences stay bound to it; (b) occurrences of the old spelling that were bound elsewhere
(another function's local of the same name) keep their binding; (c) every other name is unaffected.
(Repackaging of `C05_alpha_single_bound / _unbound / _other`.) -/
theorem C12_rename_one_decl (S : Summary ν) (d0 : Nat) (n n' : ν) (hne : n ≠ n')
    (hfresh : ∀ d ∈ S.decls, d.name ≠ n')
    (hold : ∀ d ∈ S.decls, d.stmt = d0 → d.name = n) :
    (∀ cur dd, (∀ d ∈ S.decls, d.stmt = d0 → d = dd) → resolveDecl S cur n = some dd → dd.stmt = d0 →
        resolveDecl (C05.renameIn S d0 n') cur n' = some { dd with name := n' }) ∧
    (∀ cur, (∀ dd, resolveDecl S cur n = some dd → dd.stmt ≠ d0) →
        resolveDecl (C05.renameIn S d0 n') cur n = resolveDecl S cur n) ∧
    (∀ cur m, m ≠ n → m ≠ n' → resolveDecl (C05.renameIn S d0 n') cur m = resolveDecl S cur m) :=
  ⟨fun cur dd huniq h hdd => C05.C05_alpha_single_bound S d0 n n' cur dd hfresh huniq h hdd,
   fun cur h => C05.C05_alpha_single_unbound S d0 n n' cur hne h,
   fun cur m h1 h2 => C05.C05_alpha_single_other S d0 n n' m cur hold h1 h2⟩

/-- **C12_rename (scope structure).**  Scope space and memo table (`scopeTable`) do not depend on any
identifier.  The CFG model is in the same position by construction: its input type `Cfg.S` carries
statement ids and flags only, no identifier at all. -/
theorem C12_rename_scope_structure (σ : String → String) (hσ : ∀ s, (σ s).isEmpty = s.isEmpty)
    (t : OpTable) (rows : List MRow) :
    scopeTable t (((rows.map (rename σ)).map toScopeRow).map Row.shape) =
      scopeTable t ((rows.map toScopeRow).map Row.shape) := by
  rw [toScopeRows_rename σ hσ]
  exact C05.C05_scope_structure_name_independent σ t (rows.map toScopeRow)

end Rename

section Renumber
variable {ν μ : Type} [DecidableEq ν] [DecidableEq μ]

/-- **C12_renumber (rows).**  `mapScopeRow` renumbers what the scope model reads: id, parent and the
six block references. -/
theorem C12_renumber_rows (ρ : Nat → Nat) (r : MRow) : toScopeRow (renumber ρ r) = mapScopeRow ρ (toScopeRow r) :=
  toScopeRow_renumber ρ r

/-- **C12_renumber (resolver).**  `resolve_symbol_source_decl` uses statement ids through `=`, the
sign test and `max` only: for every strictly monotone `ρ` with `ρ 0 = 0`, applied to the declaration
table, the visible-scope table, the implicit roots and the current scope, the selected declaration is
the renumbered one — "the maximum of the intersection commutes with monotone maps". -/
theorem C12_renumber_resolver {ρ : Nat → Nat} (h : Mono ρ) (S : Summary ν) (cur : Int) (n : ν) :
    resolveDecl (mapSummary ρ S) (mapInt ρ cur) n = (resolveDecl S cur n).map (mapDecl ρ) ∧
    resolveGlobal (mapSummary ρ S) n = (resolveGlobal S n).map (mapDecl ρ) :=
  ⟨resolveDecl_mapSummary h S cur n, resolveGlobal_mapSummary h S n⟩

/-- **C12_renumber (def-use rule).**  The `symbol_id` stored for an occurrence commutes as well
(`stmtScope'` is the statement→scope map of the renumbered unit). -/
theorem C12_renumber_bind {ρ : Nat → Nat} (h : Mono ρ) (S : Summary ν) (stmtScope stmtScope' : Nat → Int)
    (stmt : Nat) (hss : stmtScope' (ρ stmt) = mapInt ρ (stmtScope stmt)) (n : ν) (mode : Mode) :
    Resolver.bind (mapSummary ρ S) stmtScope' (ρ stmt) n mode =
      (Resolver.bind S stmtScope stmt n mode).map (mapDecl ρ) :=
  bind_mapSummary h S stmtScope stmtScope' stmt hss n mode

/-- **C12_renumber (CFG).**  The CFG model passes statement ids around as labels and compares them
for equality in `_add_one_edge` only: for every INJECTIVE renumbering (monotone or not — this also
covers reordered and moved code) the CFG of the renumbered method is the renumbered CFG, in both
the live and the pinned variant. -/
theorem C12_renumber_cfg {ρ : Nat → Nat} (hinj : Function.Injective ρ) (q : Cfg.Q) (params body : Cfg.S) :
    Cfg.cfg q (mapS ρ params) (mapS ρ body) = mapResult ρ (Cfg.cfg q params body) :=
  cfg_map hinj q params body

/-- **C12_renumber (construction of the scope tables).**  `discover_scopes` (ascending-id walk with
the memo table of `determine_scope`), and `correct_scopes` commute with the renumbering: scope space,
`all_scope_ids` and the memo table of the renumbered unit are the renumbered ones (live code
and the pinned variant). -/
theorem C12_renumber_scope_table {ρ : Nat → Nat} (h : Mono ρ) (t : OpTable) (shapes : List Shape) :
    scopeTable t (shapes.map (mapShape ρ)) = mapDState ρ (scopeTable t shapes) ∧
    scopeTable0 t (shapes.map (mapShape ρ)) = mapDState ρ (scopeTable0 t shapes) :=
  ⟨scopeTableG_map h true t shapes, scopeTableG_map h false t shapes⟩

/-- **C12_renumber (main theorem, rows).**  The whole per-unit pipeline on GIR rows —
`discover_scopes`, `correct_scopes`, `summarize_symbol_decls` with its worklist closure, resolver,
def-use rule — commutes with every strictly monotone renumbering `ρ` of statement ids with `ρ 0 = 0`
(applied to ids, parents and the six block references): the occurrence `(ρ stmt, n)` of the
renumbered unit is bound to the renumbered declaration, in the renumbered scope.  This is what
inserting a no-op statement does to the rows of all other statements. -/
theorem C12_renumber {ρ : Nat → Nat} (h : Mono ρ) (lastSeg : ν → Option ν) (t : OpTable) (rows : List (Row ν))
    (stmt : Nat) (n : ν) (mode : Mode) :
    bindRows lastSeg t (rows.map (mapScopeRow ρ)) (ρ stmt) n mode =
      (bindRows lastSeg t rows stmt n mode).map (mapDecl ρ) :=
  bindRows_mapRows h lastSeg t rows stmt n mode

/-- the same on the real rows as the harness abstracts them, with the lines moved as well: the
statement the driver re-evaluates on every real (base, edited) pair of a blank-line / comment /
no-op edit (`editRow` with an empty renaming). -/
theorem C12_noop_edit (e : Edit) (hρ : Mono e.ρ) (hσ : ∀ i, e.σOn i = false) (t : OpTable)
    (rows : List MRow) (stmt : Nat) (n : String) (mode : Mode) :
    bindRows lastSegStr t ((editRows e rows).map toScopeRow) (e.ρ stmt) n mode =
      (bindRows lastSegStr t (rows.map toScopeRow) stmt n mode).map (mapDecl e.ρ) := by
  rw [bindRows_editRows e hρ]
  simp only [hσ, Bool.false_eq_true, if_false, List.map_id']

/-- **all three actions at once** (a unit-wide renaming of a function / class combined with a no-op
insertion and moved lines): for an edit whose renaming applies to every row, `bindRows` on the edited
real rows is the renumbered, renamed answer on the base rows. -/
theorem C12_edit_uniform (e : Edit) (hρ : Mono e.ρ) (hσon : ∀ i, e.σOn i = true)
    (hinj : Function.Injective e.σ) (hσ : ∀ s, (e.σ s).isEmpty = s.isEmpty)
    (hseg : ∀ a, lastSegStr (e.σ a) = (lastSegStr a).map e.σ) (t : OpTable)
    (rows : List MRow) (stmt : Nat) (n : String) (mode : Mode) :
    bindRows lastSegStr t ((editRows e rows).map toScopeRow) (e.ρ stmt) (e.σ n) mode =
      ((bindRows lastSegStr t (rows.map toScopeRow) stmt n mode).map (Decl.map e.σ)).map (mapDecl e.ρ) := by
  rw [bindRows_editRows e hρ]
  simp only [hσon, if_true]
  rw [toScopeRows_rename e.σ hσ]
  congr 1
  exact C05.C05_alpha e.σ hinj lastSegStr lastSegStr hseg t (rows.map toScopeRow) stmt n mode

-- OPEN (not proved): `flatten` hands out consecutive ids, so inserting a statement that consumes `k`
-- ids shifts every later id of the unit by `k` (and the ids of later units by a multiple of 10,
-- `adjust_node_id`): a strictly monotone map.  That the REAL rows of the edited program are
-- `editRows e` of the real rows of the base program for such an `e` is checked by the driver on every
-- pair (`firstDiff`, `strictMonoOn`; evidence: coverage.tie), not proved about `Gir.flatten` or the
-- tree-sitter frontends.

end Renumber

/-- **C12_reorder_toplevel (`add_main_func`).**  `A` and `B` are two adjacent top-level declaration
subtrees (a `*_decl` / import / export row at the top level followed by the rows below it).  The pass
sends `… A B …` and `… B A …` to outputs that consist of the SAME prefix, the two subtrees in their
respective order, and the SAME rest (the kept rows, the `%unit_init` wrapper with the same two fresh
ids, the moved statements).  No hypothesis on names is needed at this level; "last declaration wins"
enters in the scope tables, not here. -/
theorem C12_reorder_toplevel (P : MainFunc.Params) {A B : Gir.Rows} (hA : DeclTree P A) (hB : DeclTree P B)
    (pre post : Gir.Rows) :
    ∃ hd tl, MainFunc.addMainFunc P (pre ++ (A ++ (B ++ post))) = hd ++ (A ++ (B ++ tl)) ∧
             MainFunc.addMainFunc P (pre ++ (B ++ (A ++ post))) = hd ++ (B ++ (A ++ tl)) :=
  addMainFunc_swap P hA hB pre post

-- OPEN (not proved): the scope / resolver pipeline commutes with the block-monotone id map that a
-- reordering induces, provided no two exchanged declarations share a name (DESIGN §5 C12); and
-- `C12_move_to_file_partial` (needs a model of the import graph, which C05 does not have either).
-- Both are covered by the metamorphic monitor and by the driver's re-evaluation of the pipeline on
-- the real rows of every swap / move pair.

def L (s : String) : Line := s.toList

/-- `rw` with this unifies a string literal with `String.ofList _` and leaves the list of its
characters.  Evaluating `toList` of a literal instead makes the kernel decode its UTF-8 bytes, which
takes it far longer than the preprocessor run itself. -/
theorem L_ofList (cs : List Char) : L (String.ofList cs) = cs := String.toList_ofList

/-- **line numbers survive.**  One output line per input line (live code). -/
theorem C12_pyimport_line_count (spans : List Spans) (lines : List Line) :
    (preprocess spans lines).length = lines.length := run_length [] lines spans

/-- **a line that does not contain the dotted name is not touched.**  A line that is not an import
line and contains none of the dotted names imported so far (as a substring) comes out as it went in,
and leaves the set of names alone. -/
theorem C12_pyimport_untouched_line (spans : Spans) (keys : List Line) (line : Line)
    (himp : isImportLine spans line = false) (h : ∀ k ∈ keys, ¬ k <:+: line) :
    stepLine spans keys line = (keys, line) := by
  unfold stepLine
  rw [if_neg (by rw [himp]; exact Bool.false_ne_true)]
  rw [rewriteLine_of_not_infix (overlaps spans) line keys h]

/-- the names that are ever rewritten are dotted names listed on an earlier import line. -/
theorem C12_pyimport_keys (spans : Spans) (keys : List Line) (line : Line) (k : Line)
    (hk : k ∈ (stepLine spans keys line).1) :
    k ∈ keys ∨ (isImportLine spans line = true ∧ k ∈ importNames (lstrip (importPart spans line)) ∧
      hasDot k = true) := by
  unfold stepLine at hk
  by_cases himp : isImportLine spans line = true
  · rw [if_pos himp] at hk
    rcases mem_addKeys.1 hk with h | h
    · exact Or.inl h
    · exact Or.inr ⟨himp, h⟩
  · rw [if_neg himp] at hk; exact Or.inl hk

/-- **string literals and comments are data.**  On a line that is not an import line, the output has
the length of the input and every column inside a literal span (as delimited by Python's tokenizer:
an input of the model) holds the character it held before — whatever was imported earlier. -/
theorem C12_pyimport_literals_untouched (spans : Spans) (keys : List Line) (line : Line)
    (himp : isImportLine spans line = false) :
    (stepLine spans keys line).2.length = line.length ∧
    ∀ s ∈ spans, ∀ col, s.1 ≤ col → col < s.2 → (stepLine spans keys line).2[col]? = line[col]? := by
  unfold stepLine
  rw [if_neg (by rw [himp]; exact Bool.false_ne_true)]
  obtain ⟨h1, h2⟩ := rewriteLine_spec (overlaps spans) keys line
  exact ⟨h1, fun s hs col hc1 hc2 => h2 col (guarded_of_span hs hc1 hc2)⟩

/-- **the trailing comment of an import line stays a comment.**  On an import line whose comment starts
at column `c` (first literal span that begins with `#`), the imported names are read from the text in
front of the comment only, and the output line ends with the comment, character for character. -/
theorem C12_pyimport_import_comment_kept (spans : Spans) (keys : List Line) (line : Line) (c : Nat)
    (himp : isImportLine spans line = true) (hc : commentStart spans line = some c) :
    (stepLine spans keys line).2 =
      leading line ++ joinWith sepSemi ((importNames (lstrip (rstrip (line.take c)))).map newImport) ++
        trailingComment spans line ∧
    line.drop c <:+ (stepLine spans keys line).2 := by
  have hpart : importPart spans line = rstrip (line.take c) := by unfold importPart; rw [hc]
  have hout : (stepLine spans keys line).2 =
      leading line ++ joinWith sepSemi ((importNames (lstrip (rstrip (line.take c)))).map newImport) ++
        trailingComment spans line := by
    unfold stepLine
    rw [if_pos himp, hpart]
  refine ⟨hout, ?_⟩
  rw [hout]
  exact (comment_suffix_trailing hc).trans (List.suffix_append _ _)

/-- **REPAIRED finding C12/import-rewrite-in-strings** (frozen model of the pinned commit): after
`import os.path` the constant `"see os.path docs"` is rewritten.  Reproduced on the real code. -/
theorem C12_unfixed_counterexample_import_rewrite_touches_strings :
    preprocess0 [L "import os.path", L "s = \"see os.path docs\""] =
      [L "from os.path import os_path", L "s = \"see os_path docs\""] := by
  repeat rw [L_ofList]
  decide +kernel

/-- on the same input the output is not the input with only the import line rewritten: the string
constant has changed. -/
theorem C12_import_rewrite_touches_strings :
    preprocess0 [L "import os.path", L "s = \"see os.path docs\""] ≠
      [L "from os.path import os_path", L "s = \"see os.path docs\""] := by
  repeat rw [L_ofList]
  decide +kernel

/-- the repaired code on the same input, with the span the tokenizer reports for the string
(columns 4–22 of the second line): the constant is left alone, code next to it is still rewritten. -/
theorem C12_fixed_import_rewrite_spares_strings :
    preprocess [[], [(4, 22)]] [L "import os.path", L "s = \"see os.path docs\" + os.path.sep"] =
      [L "from os.path import os_path", L "s = \"see os.path docs\" + os_path.sep"] := by
  repeat rw [L_ofList]
  decide +kernel

/-- **REPAIRED finding C12/import-rewrite-in-strings, second half** (frozen): a docstring line that
starts with `import x.y` is taken for an import statement and `x.y` is rewritten from then on. -/
theorem C12_unfixed_counterexample_docstring_import :
    preprocess0 [L "\"\"\"usage:", L "import x.y", L "\"\"\"", L "    v = x.y"] =
      [L "\"\"\"usage:", L "from x.y import x_y", L "\"\"\"", L "    v = x_y"] ∧
    preprocess [[(0, 9)], [(0, 10)], [(0, 3)], []] [L "\"\"\"usage:", L "import x.y", L "\"\"\"", L "    v = x.y"] =
      [L "\"\"\"usage:", L "import x.y", L "\"\"\"", L "    v = x.y"] := by
  repeat rw [L_ofList]
  decide +kernel

/-- **REPAIRED finding C12/import-split-shifts-lines** (frozen): `import os, sys` became two lines, so
`x = 1` moved from line 2 to line 3 — every later `start_row`, hence every reported line, was one too
large.  The live code keeps the line count (`C12_pyimport_line_count`). -/
theorem C12_unfixed_counterexample_import_split_shifts_lines :
    preprocess0 [L "import os, sys", L "x = 1"] = [L "import os", L "import sys", L "x = 1"] ∧
    preprocess [] [L "import os, sys", L "x = 1"] = [L "import os; import sys", L "x = 1"] := by
  repeat rw [L_ofList]
  decide +kernel

/-- **REPAIRED finding C12/import-line-comment-swallowed** (frozen model of the pinned commit): the
trailing comment of `import os.path  # c` becomes part of the imported name — the line handed to
tree-sitter is `from os.path  # c import os_path  # c` (an import without names: the module is never
imported) and the name to rewrite is `os.path  # c`, which never occurs again, so `os.path` in later
lines stays.  The live code reads the name in front of the comment and keeps the comment. -/
theorem C12_unfixed_counterexample_import_trailing_comment :
    preprocess0 [L "import os.path  # c", L "x = os.path.sep"] =
      [L "from os.path  # c import os_path  # c", L "x = os.path.sep"] ∧
    preprocess [[(16, 19)], []] [L "import os.path  # c", L "x = os.path.sep"] =
      [L "from os.path import os_path  # c", L "x = os_path.sep"] := by
  repeat rw [L_ofList]
  decide +kernel

/-- **OPEN finding C12/import-rewrite-scope-blind** (live model): the rewrite knows no scopes.  The
same two lines of a function `g(conf)` are rewritten or not depending on whether an unrelated
`import conf.db` stands before or after them — exchanging two independent definitions changes what
tree-sitter gets to see (`conf.db`, a field of the parameter, vs the unbound name `conf_db`). -/
theorem C12_import_rewrite_scope_blind :
    preprocess [] [L "def g(conf):", L "    return conf.db", L "def f():", L "    import conf.db"] =
      [L "def g(conf):", L "    return conf.db", L "def f():", L "    from conf.db import conf_db"] ∧
    preprocess [] [L "def f():", L "    import conf.db", L "def g(conf):", L "    return conf.db"] =
      [L "def f():", L "    from conf.db import conf_db", L "def g(conf):", L "    return conf_db"] := by
  repeat rw [L_ofList]
  decide +kernel

/-- the hypotheses of `C12_renumber_*` are satisfiable by a map that really moves ids (what inserting
one statement after id 3 does). -/
example : Mono (fun n => if n ≤ 3 then n else n + 1) :=
  ⟨fun a b h => by by_cases ha : a ≤ 3 <;> by_cases hb : b ≤ 3 <;> simp [ha, hb] <;> omega, by simp⟩

/-- under that map the resolver theorem speaks of a name that resolves. -/
example :
    let S : Summary String := { decls := [⟨"x", 0, 2, false⟩, ⟨"x", 5, 7, false⟩], avail := [(5, [5, 0])], implicit := [] }
    resolveDecl S 5 "x" = some ⟨"x", 5, 7, false⟩ ∧
    resolveDecl (mapSummary (fun n => if n ≤ 3 then n else n + 1) S) 6 "x" = some ⟨"x", 6, 8, false⟩ := by
  decide +kernel

/-- `C12_renumber` on a unit in which the name resolves (the rows of C05's witness `w3Rows`:
`x = 1` / `def g():` / `    x = 2` / `    def h(): … return x`), renumbered as if one statement had been
inserted after id 3: statement 10 becomes 11 and is bound to declaration 6 in scope 5 instead of
declaration 5 in scope 4. -/
example :
    bindRows lastSegStr defaultOps C05.w3Rows 10 "x" .use = some ⟨"x", 4, 5, false⟩ ∧
    bindRows lastSegStr defaultOps (C05.w3Rows.map (mapScopeRow (fun n => if n ≤ 3 then n else n + 1))) 11 "x" .use =
      some ⟨"x", 5, 6, false⟩ := by
  refine ⟨C05.C05_py_global_decl_ignored.2, ?_⟩
  decide +kernel

/-- `C12_renumber_cfg` on a method with a loop: the edge list really changes with the ids. -/
example :
    Cfg.cfg Cfg.Q.live .nil (.whileS 4 false .nil (.simple 5 .nil) .nil (.ret 6 .nil)) =
      .ok [(4, 5, Cfg.kLOOP_TRUE), (5, 4, Cfg.kLOOP_BACK), (4, 6, Cfg.kLOOP_FALSE), (6, -1, Cfg.kRETURN)] ∧
    Cfg.cfg Cfg.Q.live .nil (mapS (fun n => n + 10) (.whileS 4 false .nil (.simple 5 .nil) .nil (.ret 6 .nil))) =
      .ok [(14, 15, Cfg.kLOOP_TRUE), (15, 14, Cfg.kLOOP_BACK), (14, 16, Cfg.kLOOP_FALSE), (16, -1, Cfg.kRETURN)] := by
  decide +kernel

/-- `C12_rename_fresh`: the transposition satisfies the segment hypothesis for an undotted universe. -/
example : ∀ x : Nat, (fun y : Nat => some y) (swapName 1 9 x) = ((fun y : Nat => some y) x).map (swapName 1 9) :=
  fun _ => rfl

/-- `C12_reorder_toplevel`: two method declarations with their blocks are `DeclTree`s. -/
example : DeclTree {} [⟨"method_decl", 1, 0, [("body", .int 2)]⟩, Gir.mkStart 2 1, ⟨"return_stmt", 3, 2, []⟩, Gir.mkEnd 2 1] := by
  refine ⟨by simp, fun r hr => ?_, fun r hr => ?_⟩
  · simp at hr; subst hr
    refine ⟨rfl, ?_⟩
    decide +kernel
  · simp [Gir.mkStart, Gir.mkEnd] at hr; rcases hr with rfl | rfl | rfl <;> simp

/-- `C12_pyimport_literals_untouched` / `_untouched_line`: the hypotheses hold on a real-looking line. -/
example : isImportLine [(4, 22)] (L "s = \"see os.path docs\" + os.path.sep") = false := by
  repeat rw [L_ofList]
  decide +kernel

end LianVerif.C12
