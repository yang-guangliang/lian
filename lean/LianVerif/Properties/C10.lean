/-
C10 — Taint analysis reports every explicit source-to-sink flow.

Models: LianVerif/Model/Sfg.lean, TaintRules.lean, Taint.lean (`current` = the repaired code in /repo;
single-flag variants of it = the pinned commit, frozen).  Vocabulary: LianVerif/Spec/Reach.lean.

Strength.  The property decomposes into
  (P) "a value flows at run time ⇒ there is a path in the SFG"  — soundness of lian's P1–P3
      analyses, NOT proved (searched for counter-examples by the end-to-end tier of the check), and
  (E) "a path in the SFG and matching rules ⇒ the flow is reported" — the engine part, proved here:
      `C10_propagation_complete` (the final tag map contains every consequence of every `Live`
      node), `C10_flow_reported` / `C10_analyze_reports` (hence the pair is reported), and the
      decision logic of every rule kind (`C10_rule_kinds_*`).
`Live` is reachability on NODES that only follows steps guaranteed to enqueue their target: def-use
steps always, the others when the target's id has a single owner (`UniqueSym` / `UniqueSt`).  How much
of `Reach` it covers is not proved (no theorem relates `Live` to `Reach`, none shows the uniqueness
premises for a class of graphs); that the id-level closure is NOT reached in general is the negative
theorem `C10_alias_incomplete`.
Termination of the worklist within `fuelFor g` iterations on such graphs is proved
(`C10_worklist_terminates`, potential-function argument in Proofs/TaintTerm.lean); on ill-typed
graphs the real loop can run forever, the driver reports a non-empty final worklist.
-/
import LianVerif.Proofs.TaintComplete
import LianVerif.Proofs.TaintTerm
import LianVerif.Proofs.TaintRules
import LianVerif.Spec.TaintWitness

namespace LianVerif.C10
open LianVerif.Sfg LianVerif.TaintRules LianVerif.Taint LianVerif.Reach LianVerif.TaintWitness

/-- **C10 (the worklist terminates).** On a consistently serialised, edge-typed SFG the loop of
`propagate_taint` has emptied its worklist after at most `fuelFor g` = 4·N² + 8·N + 1 iterations. -/
theorem C10_worklist_terminates (g : Graph) (prm : Params) (src : Nat) (hwf : g.wf = true)
    (hty : edgeTyped g = true) : (propagate g prm src).wl = [] :=
  propagate_terminates prm hwf hty src

/-- **C10 (propagation is complete).** On a consistently serialised, edge-typed SFG every `Live`
node has been dequeued carrying the tag, and every one-step consequence of it carries the tag in
the final environment. -/
theorem C10_propagation_complete (g : Graph) (prm : Params) (src : Nat) (hwf : g.wf = true)
    (hty : edgeTyped g = true) (u : Nat) (hl : Live g prm src u) :
    u ∈ (propagate g prm src).processed ∧ nodeTag g (propagate g prm src) u = true ∧
    ∀ l, Conseq g prm u l → TaggedLoc (propagate g prm src) l :=
  let ⟨_, hinv⟩ := inv_run (consistent_of_wf hwf) (edgeTyped_of_check (consistent_of_wf hwf) hty)
    (fuelFor g)
  hinv.live (propagate_terminates prm hwf hty src) hl

theorem C10_live_symbol_tagged (g : Graph) (prm : Params) (src : Nat) (hwf : g.wf = true)
    (hty : edgeTyped g = true) (u : Nat)
    (hl : Live g prm src u) (hk : g.kindOf u = K_SYMBOL) : g.nid u ∈ (propagate g prm src).symT :=
  (nodeTag_sym hk).1 (C10_propagation_complete g prm src hwf hty u hl).2.1

/-- **C10 (reachable + rules ⇒ reported).** If a sink rule consulted for `sink` names a position at
which a live symbol is used, `find_flows` reports the pair. -/
theorem C10_flow_reported {vr : Variant} (hr : vr.resetTargetPos = true) (g : Graph) (prm : Params)
    (rs : RuleSet) (sources sinks : List Nat) (src sink : Nat) (hwf : g.wf = true)
    (hty : edgeTyped g = true)
    (hsrc : src ∈ sources) (hsink : sink ∈ sinks) (hk : (g.node sink).kind = K_STMT)
    (r : Rule) (hrm : r ∈ sinkMatching vr g rs sink) (t : Option String) (ht : t ∈ targetsOf r)
    (e : Edge) (he : e ∈ g.inE sink) (het : e.etype = E_USED)
    (hpos : posHit (g.node sink).name t ((targetPos? t).getD (-1)) e = true)
    (hks : g.kindOf e.peer = K_SYMBOL) (hl : Live g prm src e.peer) :
    ∃ f ∈ findFlows vr g prm rs sources sinks, f.src = src ∧ f.sink = sink := by
  have htag : symWithStatesTag g (propagate g prm src) e.peer = true :=
    Bool.or_eq_true .. ▸ .inl (List.contains_iff_mem.2
      (C10_live_symbol_tagged g prm src hwf hty e.peer hl hks))
  exact ⟨{ src := src, sink := sink, vuln := (sinkTag vr g rs (propagate g prm src) sink).vuln },
    mem_findFlows.2 ⟨hsrc, hsink,
      (sinkTag_iff hr).2 ⟨hk, .inl ⟨r, hrm, t, ht, e, he, het, hpos, htag⟩⟩, rfl⟩, rfl, rfl⟩

/-- the same for the analysis of a whole entry point, where sources and sinks are found by the rules. -/
theorem C10_analyze_reports {vr : Variant} (hr : vr.resetTargetPos = true) (g : Graph) (prm : Params)
    (rs : RuleSet) (n src sink : Nat) (hwf : g.wf = true) (hty : edgeTyped g = true)
    (hn : n < g.size) (hnk : (g.node n).kind = K_STMT) (hm : srcMatch vr g rs n = true)
    (hd : defSym g n = some src)
    (hs : sink < g.size) (hk : (g.node sink).kind = K_STMT) (hsm : isSink vr g rs sink = true)
    (r : Rule) (hrm : r ∈ sinkMatching vr g rs sink) (t : Option String) (ht : t ∈ targetsOf r)
    (e : Edge) (he : e ∈ g.inE sink) (het : e.etype = E_USED)
    (hpos : posHit (g.node sink).name t ((targetPos? t).getD (-1)) e = true)
    (hks : g.kindOf e.peer = K_SYMBOL) (hl : Live g prm src e.peer) :
    ∃ f ∈ analyze vr g prm rs, f.src = src ∧ f.sink = sink := by
  unfold analyze
  apply C10_flow_reported hr g prm rs _ _ src sink hwf hty _ (mem_findSinks.2 ⟨hs, hsm⟩) hk
    r hrm t ht e he het hpos hks hl
  exact List.mem_filterMap.2 ⟨some src, mem_findSources_some.2 ⟨n, hn, hnk, hm, hd⟩, rfl⟩

/-- call source (`operation: call_stmt`): the callee symbol is the LAST predecessor whose edge has
position `callSrcPos` (0 in the repaired code), the statement defines a symbol, and some source
rule of operation call_stmt passes the language / unit_path / unit_name / line_num filters and
names the access path of one of the callee's states (or the callee's name when that path is empty). -/
theorem C10_rule_kinds_call_source (vr : Variant) (g : Graph) (rs : RuleSet) (n : Nat) :
    callSource vr g rs n = true ↔
      ∃ m d, (usedByPos g n vr.callSrcPos).1 = some m ∧ defSym g n = some d ∧
        ∃ r ∈ rs.sources, langOk vr r.lang (g.node n) = true ∧ failUnitPath r (g.node n) = false ∧
          failUnitName r (g.node n) = false ∧ failLine r ((g.node n).lineNo + 1) = false ∧
          r.operation = some "call_stmt" ∧
          ∃ s ∈ (usedByPos g n vr.callSrcPos).2,
            some (if apFmtDrop (g.node s).ap = "" then (g.node m).name
                  else apFmtDrop (g.node s).ap) = r.name := by
  unfold callSource
  rcases usedByPos g n vr.callSrcPos with ⟨_ | m, ms⟩
  · exact ⟨nofun, by rintro ⟨_, _, ⟨⟩, _⟩⟩
  cases defSym g n with
  | none => exact ⟨nofun, by rintro ⟨_, _, _, ⟨⟩, _⟩⟩
  | some d =>
    simp only [List.any_eq_true, Bool.and_eq_true, Bool.not_eq_true', beq_iff_eq, and_assoc,
      Option.some.injEq, exists_and_left, exists_eq_left']

/-- method-call source: an `object_call_stmt` statement and some source rule (of ANY operation)
that passes the filters and whose name is `<receiver text>.<field>` or `<access path of a state of
the receiver symbol at position 0>.<field>`. -/
theorem C10_rule_kinds_object_call_source (vr : Variant) (g : Graph) (rs : RuleSet) (n : Nat) :
    objCallSource vr g rs n = true ↔
      (g.node n).kind = K_STMT ∧ (g.node n).name = "object_call_stmt" ∧
      ∃ r ∈ rs.sources, langOk vr r.lang (g.node n) = true ∧ failUnitPath r (g.node n) = false ∧
        failUnitName r (g.node n) = false ∧ failLine r ((g.node n).lineNo + 1) = false ∧
        nameIn r.name (objCallNames g n 0 false) = true := by
  simp only [objCallSource, List.any_eq_true, Bool.and_eq_true, Bool.not_eq_true', beq_iff_eq,
    and_assoc]

/-- parameter source: the name of the FIRST successor of the `parameter_decl` statement equals the
name of a source rule that passes the language / unit_name / line filters and either has no `attr`
(then its operation is not looked at) or has operation parameter_decl. -/
theorem C10_rule_kinds_parameter_source (vr : Variant) (g : Graph) (rs : RuleSet) (n : Nat) :
    paramSource vr g rs n = true ↔
      ∃ e0, (g.outE n).head? = some e0 ∧
        ∃ r ∈ rs.sources, langOk vr r.lang (g.node n) = true ∧ failUnitName r (g.node n) = false ∧
          failLine r ((g.node n).startRow + 1) = false ∧
          r.name = some (g.node e0.peer).name ∧
          (truthy r.attr = false ∨ r.operation = some "parameter_decl") := by
  unfold paramSource
  cases (g.outE n).head? with
  | none => simp
  | some e0 =>
    simp only [List.any_eq_true, Bool.and_eq_true, Bool.or_eq_true, Bool.not_eq_true', beq_iff_eq,
      Option.some.injEq, exists_eq_left', and_assoc]
    refine exists_congr fun r => and_congr_right fun _ => and_congr_right fun _ =>
      and_congr_right fun _ => and_congr_right fun _ => ?_
    exact or_and_right.symm.trans and_comm

/-- field-read source: the statement defines a symbol holding at least one state, and some source
rule of operation field_read passes the filters and names the access path of one of those states. -/
theorem C10_rule_kinds_field_read_source (vr : Variant) (g : Graph) (rs : RuleSet) (n : Nat) :
    fieldReadSource vr g rs n = true ↔
      (defSym g n).isSome = true ∧ defStates g (defSym g n) ≠ [] ∧
      ∃ r ∈ rs.sources, langOk vr r.lang (g.node n) = true ∧ r.operation = some "field_read" ∧
        (vr.fieldReadLoc = true → failUnitPath r (g.node n) = false ∧
          failUnitName r (g.node n) = false ∧ failLine r ((g.node n).lineNo + 1) = false) ∧
        ∃ s ∈ defStates g (defSym g n), some (apFmtDrop (g.node s).ap) = r.name := by
  unfold fieldReadSource
  dsimp only
  cases hd : defSym g n with
  | none => simp
  | some d =>
    cases hs : defStates g (some d) with
    | nil => simp
    | cons s0 sts =>
      simp only [Option.isNone_some, List.isEmpty_cons, Bool.or_self, Bool.false_eq_true, if_false,
        List.any_eq_true, Bool.and_eq_true, Bool.or_eq_true, Bool.not_eq_true', beq_iff_eq,
        Option.isSome_some, ne_eq, reduceCtorEq, not_false_eq_true, true_and, and_assoc]
      refine exists_congr fun r => and_congr_right fun _ => and_congr_right fun _ =>
        and_congr_right fun _ => and_congr_left fun _ => ?_
      cases vr.fieldReadLoc <;> simp

/-- call sink: a `call_stmt` statement, and some sink rule of operation call_stmt that passes the
language / unit_name / line filters and whose dotted name is a suffix (with `\\%anyname` wildcards)
of the access path of a state of the callee symbol (LAST predecessor at position 0). -/
theorem C10_rule_kinds_call_sink (vr : Variant) (g : Graph) (rs : RuleSet) (n : Nat) :
    callSink vr g rs n = true ↔
      (g.node n).kind = K_STMT ∧ (g.node n).name = "call_stmt" ∧
      ∃ r ∈ rs.sinks, langOk vr r.lang (g.node n) = true ∧ r.operation = some "call_stmt" ∧
        failUnitName r (g.node n) = false ∧ failLine r ((g.node n).lineNo + 1) = false ∧
        ∃ s ∈ (usedByPos g n 0).2, checkMethodName (r.name.getD "") (g.node s).ap = true := by
  simp only [callSink, List.any_eq_true, Bool.and_eq_true, Bool.not_eq_true', beq_iff_eq, and_assoc]

/-- method-call sink: an `object_call_stmt` statement and some sink rule (of ANY operation) that
passes the filters and whose name is `<receiver text>.<field>`, `__init__` for constructor calls,
or built from a state of the predecessor at position -1. -/
theorem C10_rule_kinds_object_call_sink (vr : Variant) (g : Graph) (rs : RuleSet) (n : Nat) :
    objCallSink vr g rs n = true ↔
      (g.node n).kind = K_STMT ∧ (g.node n).name = "object_call_stmt" ∧
      ∃ r ∈ rs.sinks, langOk vr r.lang (g.node n) = true ∧ failUnitPath r (g.node n) = false ∧
        failUnitName r (g.node n) = false ∧ failLine r ((g.node n).lineNo + 1) = false ∧
        nameIn r.name (objCallNames g n (-1) true) = true := by
  simp only [objCallSink, List.any_eq_true, Bool.and_eq_true, Bool.not_eq_true', beq_iff_eq,
    and_assoc]

/-- record-write sink (selection only — see `C10_record_write_never_reported`). -/
theorem C10_rule_kinds_record_write_sink (vr : Variant) (g : Graph) (rs : RuleSet) (n : Nat) :
    recordSink vr g rs n = true ↔
      (g.node n).kind = K_STMT ∧ (g.node n).name = "record_write" ∧
      ∃ r ∈ rs.sinks, langOk vr r.lang (g.node n) = true ∧ r.operation = some "record_write" ∧
        failUnitPath r (g.node n) = false ∧ failUnitName r (g.node n) = false ∧
        failLine r ((g.node n).lineNo + 1) = false ∧ truthy r.key = true ∧
        r.key = some (g.node n).sKey := by
  simp only [recordSink, List.any_eq_true, Bool.and_eq_true, Bool.not_eq_true', beq_iff_eq,
    and_assoc]

/-- field-write sink: a `field_write` statement and a sink rule of operation field_write that
passes the filters and whose non-empty name OCCURS IN THE PRINTED GIR of the statement. -/
theorem C10_rule_kinds_field_write_sink (vr : Variant) (g : Graph) (rs : RuleSet) (n : Nat) :
    fieldSink vr g rs n = true ↔
      (g.node n).kind = K_STMT ∧ (g.node n).name = "field_write" ∧
      ∃ r ∈ rs.sinks, langOk vr r.lang (g.node n) = true ∧ r.operation = some "field_write" ∧
        failUnitPath r (g.node n) = false ∧ failUnitName r (g.node n) = false ∧
        failLine r ((g.node n).lineNo + 1) = false ∧
        ∃ x, r.name = some x ∧ x ≠ "" ∧ strIn x (g.node n).operation = true := by
  simp only [fieldSink, List.any_eq_true, Bool.and_eq_true, Bool.not_eq_true', beq_iff_eq, and_assoc]
  refine and_congr_right fun _ => and_congr_right fun _ => exists_congr fun r =>
    and_congr_right fun _ => and_congr_right fun _ => and_congr_right fun _ =>
    and_congr_right fun _ => and_congr_right fun _ => and_congr_right fun _ => ?_
  cases r.name <;> simp

/-- which rule targets name which position (`\\%arg0..4` ↦ 1..5, `\\%receiver` / `\\%target` ↦ 0,
anything else ↦ none), and when a used symbol at edge position `e.pos` counts: object calls shift
the argument positions by one; `\\%target`, an absent and an empty target make every position count. -/
theorem C10_rule_kinds_target_position :
    targetPos? (some KW_ARG0) = some 1 ∧ targetPos? (some KW_ARG1) = some 2 ∧
    targetPos? (some KW_ARG2) = some 3 ∧ targetPos? (some KW_ARG3) = some 4 ∧
    targetPos? (some KW_ARG4) = some 5 ∧ targetPos? (some KW_RECEIVER) = some 0 ∧
    targetPos? (some KW_TARGET) = some 0 ∧ targetPos? none = none ∧
    targetPos? (some "%arg0") = none ∧
    (∀ (e : Edge), posHit "call_stmt" (some KW_ARG0) 1 e = (e.pos == 1)) ∧
    (∀ (e : Edge), posHit "object_call_stmt" (some KW_ARG0) 1 e = (e.pos - 1 == 1)) ∧
    (∀ (op : String) (p : Int) (e : Edge), posHit op (some KW_TARGET) p e = true) ∧
    (∀ (op : String) (p : Int) (e : Edge), posHit op none p e = true) := by
  have h1 : (some KW_ARG0 == some KW_TARGET) = false := by decide +kernel
  have h2 : truthy (some KW_ARG0) = true := by decide +kernel
  refine ⟨by decide +kernel, by decide +kernel, by decide +kernel, by decide +kernel,
    by decide +kernel, by decide +kernel, by decide +kernel, by decide +kernel, by decide +kernel,
    fun e => ?_, fun e => ?_, fun op p e => ?_, fun op p e => ?_⟩
  · simp [posHit, h1, h2]
  · simp [posHit, h1, h2]
  · simp [posHit]
  · simp [posHit, truthy]

/-- `w = src(); sink(w)`: the hypotheses of `C10_analyze_reports` are satisfiable (the graph is
consistent and edge-typed, `w` is live and sits at position 1); the flow the repaired model then
reports is the second half of `C10_unfixed_call_source`. -/
example : gCallSrc.wf = true ∧ edgeTyped gCallSrc = true ∧ (propagate gCallSrc prm0 1).wl = [] := by
  decide +kernel
example : Live gCallSrc prm0 1 1 := Live.init (LiveInit.srcSym (by decide))

/-- **the pinned commit**: `apply_call_stmt_source_rules` looked the callee up at position -1.  No
edge of an SFG carries that position, so no call statement was ever a source, whatever the rules. -/
theorem C10_call_source_never_matches (vr : Variant) (hv : vr.callSrcPos = -1) (g : Graph)
    (rs : RuleSet) (n : Nat) (hpos : ∀ e ∈ g.inE n, e.pos ≠ -1) : callSource vr g rs n = false := by
  unfold callSource
  rw [hv, usedByPos_of_no_pos hpos]

/-- witness: `w = src(); sink(w)` — nothing at the pinned commit, the flow after the repair. -/
theorem C10_unfixed_call_source :
    analyze wCallSrc.frozen wCallSrc.g prm0 wCallSrc.rs = [] ∧
    analyze current wCallSrc.g prm0 wCallSrc.rs = [{ src := 1, sink := 4, vuln := some "v" }] := by
  decide +kernel

example : analyze current wCallSrc.g prm0 wCallSrc.rs = [{ src := 1, sink := 4, vuln := some "v" }] :=
  C10_unfixed_call_source.2

/-- **open finding (also in the repaired code)**: `get_sink_tag_by_rules` has no branch for
`record_write`; without a from-code hit the sink tag of a record-write statement is zero in every
environment, so a record-write sink never yields a flow. -/
theorem C10_record_write_never_reported (vr : Variant) (g : Graph) (rs : RuleSet) (s : PState)
    (n : Nat) (hop : (g.node n).name = "record_write") (hcode : codeSinkHit vr rs (g.node n) = false) :
    (sinkTag vr g rs s n).tag = false :=
  sinkTag_of_no_rule
    (sinkMatching_other (by rw [hop]; decide) (by rw [hop]; decide) (by rw [hop]; decide)) hcode

/-- **open finding (also in the repaired code)**: tags are per id, the worklist is per node.
In `gAlias` the source flows into two symbol nodes with the same id; the first makes the id tagged,
so the second is never enqueued and what only IT is used by stays untagged — although the location
is reachable in the id-level closure.  `Live` (with its uniqueness conditions) cannot be replaced
by `Reach` in `C10_propagation_complete`. -/
theorem C10_alias_incomplete :
    Reach gAlias prm0 0 (true, 3) ∧ (3 : Int) ∉ (propagate gAlias prm0 0).symT ∧
    (propagate gAlias prm0 0).wl = [] ∧ gAlias.wf = true ∧ edgeTyped gAlias = true ∧
    findFlows current gAlias prm0 wAlias.rs [0] [5] = [] := by
  refine ⟨?_, ?_⟩
  · -- 0 (id 1) → B = node 2 (id 2) by SYMBOL_FLOW → statement 3 uses it → defines node 4 (id 3)
    have h0 : Reach gAlias prm0 0 (symLoc gAlias 0) := Reach.initSym (by decide)
    have hB : Reach gAlias prm0 0 (symLoc gAlias 2) :=
      Reach.stepSym (u := 0) (by decide) h0
        (Conseq.symFlow (e := ⟨2, 3, -1⟩) (by decide) (by decide) (Or.inl (by decide)) (by decide))
    exact Reach.stepStmt (u := 3) (e := ⟨2, 2, 0⟩) (by decide) (by decide) (by decide) hB
      (Conseq.stmtDef (e := ⟨4, 1, -1⟩) (by decide) (by decide) (by decide) (by decide))
  · decide +kernel

end LianVerif.C10
