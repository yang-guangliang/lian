/-
C02 — The same program written in any supported language lowers to equivalent GIR.

The two vocabulary theorems are read off `rowOk_iff` (what the vocabulary check asks of a row).  The negative
theorems are witnessed on the model and replayed on the real code by corpus/C02/*.json.
Source semantics: LianVerif/Spec/Core.lean (`runCore` = evalCore).  Vocabulary check:
LianVerif/Model/Vocabulary.lean.  Target semantics: LianVerif/Gir/Sem.lean (`runEntry`).
-/
import LianVerif.Model.Vocabulary
import LianVerif.Spec.Core
import LianVerif.Proofs.LowerCore

namespace LianVerif.C02
open LianVerif.Vocabulary LianVerif.Gir LianVerif.Core LianVerif.LowerCore

theorem rowOk_iff (V : Vocab) (r : Row) : rowOk V r = true ↔
    V.isHandled r.op = true ∧
    (r.op ∈ mustDefUse → r.op ∈ V.defuse) ∧ (r.op ∈ mustCfg → r.op ∈ V.cfg) ∧
    (∀ a ∈ r.attrs, a ∈ lookupL V.reads r.op ∨ a ∈ lookupL V.doc r.op ∨ a ∈ V.book) ∧
    (∀ a ∈ lookupL required r.op, a ∈ r.attrs) := by
  -- the conjuncts of `rowOk` in its order, each Boolean test as the proposition it decides
  simp only [rowOk, Vocab.tablesOk, Vocab.isKnown, Bool.and_eq_true, Bool.or_eq_true, Bool.not_eq_true',
    List.all_eq_true, List.contains_eq_mem, decide_eq_true_eq, decide_eq_false_iff_not, or_assoc, and_assoc,
    Decidable.imp_iff_not_or]

/-- **C02, vocabulary clause.**  If `vocabCheck V rows` answers `true` (it is evaluated by lvdrv on the
REAL rows, with the vocabulary `V` extracted at run time from the live handler tables), then for every
row: (1) its operation is handled by some analysis table (or is a structural marker), and, if it is
one of the carriers of the elements C02 names (`mustDefUse`) / a control-transfer operation
(`mustCfg`), by the def-use table / the CFG table themselves; (2) every attribute the row sets is in
the vocabulary of that operation — read by a handler of the operation, declared for it by the
instruction table, or a bookkeeping column; (3) every attribute an analysis reads for the operation is
one the row sets or may legitimately omit (it is not in `required`). -/
theorem C02_vocabulary_check_sound (V : Vocab) (rows : Rows) (h : vocabCheck V rows = true) :
    ∀ r ∈ rows,
      V.isHandled r.op = true ∧
      (r.op ∈ mustDefUse → r.op ∈ V.defuse) ∧ (r.op ∈ mustCfg → r.op ∈ V.cfg) ∧
      (∀ a ∈ r.attrs, a ∈ lookupL V.reads r.op ∨ a ∈ lookupL V.doc r.op ∨ a ∈ V.book) ∧
      (∀ a ∈ lookupL V.reads r.op, a ∈ r.attrs ∨ a ∉ lookupL required r.op) := by
  intro r hr
  obtain ⟨hh, hd, hc, hk, hq⟩ := (rowOk_iff V r).1 (List.all_eq_true.mp h r hr)
  exact ⟨hh, hd, hc, hk, fun a _ => (Decidable.em (a ∈ lookupL required r.op)).imp (hq a) id⟩

/-- the converse: the check accepts exactly the rows with these three properties (so it raises no
alarm on a row that has them). -/
theorem C02_vocabulary_check_complete (V : Vocab) (rows : Rows)
    (h : ∀ r ∈ rows, V.isHandled r.op = true ∧
      (r.op ∈ mustDefUse → r.op ∈ V.defuse) ∧ (r.op ∈ mustCfg → r.op ∈ V.cfg) ∧
      (∀ a ∈ r.attrs, a ∈ lookupL V.reads r.op ∨ a ∈ lookupL V.doc r.op ∨ a ∈ V.book) ∧
      (∀ a ∈ lookupL required r.op, a ∈ r.attrs)) :
    vocabCheck V rows = true :=
  List.all_eq_true.mpr fun r hr => (rowOk_iff V r).2 (h r hr)

/-- the vocabulary of the two handler tables restricted to the operations of the witnesses below
(as extracted from the pinned commit). -/
def exVocab : Vocab :=
  { handled := ["return_stmt", "call_stmt", "assign_stmt", "array_read"],
    defuse := ["return_stmt", "call_stmt", "assign_stmt", "array_read"],
    cfg := ["return_stmt"],
    reads := [("return_stmt", ["name"]),
              ("call_stmt", ["name", "target", "positional_args", "packed_positional_args", "named_args", "packed_named_args"]),
              ("assign_stmt", ["target", "operand", "operand2", "operator"]),
              ("array_read", ["target", "array", "index"])],
    doc := [("call_stmt", ["data_type", "prototype"])],
    book := ["stmt_id", "parent_stmt_id", "unit_id", "start_row", "start_col", "end_row", "end_col"] }

/-- Non-vacuity: the rows every frontend but Go emits for `y = add(x, 3); return y` pass the check. -/
example : vocabCheck exVocab
    [ { op := "call_stmt", attrs := ["stmt_id", "target", "name", "positional_args"] },
      { op := "return_stmt", attrs := ["stmt_id", "name"] } ] = true := by decide +kernel

/-- **Defect of the pinned commit (C02/go-return-args-vocabulary), frozen rows; repaired.**  The rows
the pinned Go frontend emits for `return y` and `add(x, 3)` — operation `return` with attribute
`target`, `call_stmt` with `args` — are rejected by the check (the operation is handled by no table;
`args` is read by no handler of `call_stmt`); the rows the repaired frontend emits pass. -/
theorem C02_go_return_outside_vocabulary :
    vocabCheck exVocab [ { op := "return", attrs := ["stmt_id", "target"] } ] = false ∧
    vocabCheck exVocab [ { op := "call_stmt", attrs := ["stmt_id", "target", "name", "args"] } ] = false ∧
    vocabCheck exVocab [ { op := "array_read", attrs := ["stmt_id", "target", "receiver_object", "index"] } ] = false ∧
    vocabCheck exVocab
      [ { op := "return_stmt", attrs := ["stmt_id", "name"] },
        { op := "call_stmt", attrs := ["stmt_id", "target", "name", "positional_args"] },
        { op := "array_read", attrs := ["stmt_id", "target", "array", "index"] } ] = true := by
  decide +kernel

/-- **C02, expression handlers, pure fragment, each of the seven dialect rows** (constants of the three
scalar types, variables, arithmetic / comparison / concatenation, unary minus and `not`; `pureE`).
For every language `l` and every state `σ` of the common GIR reference semantics in which lian temporaries
are ordinary locals: if the reference semantics of the core language (`Core.evalE`) gives `e` the value `v`
in `σ'`, the statements the model of `l`'s handlers emits for `e` run from `σ` to a state that has `v` in the
returned operand and differs from `σ'` in temporaries only.  The dialect-specific choices covered: operator
spellings (`not`/`!`), Java's folding of a binary expression over two literals, C's negative number
literals, PHP's copy of string literals to a temporary.  `NoTmpE`: the source does not itself use names of
the form `%vvN`. -/
theorem C02_lower_expr_partial (l : Lang) (fns : List FnDef) (e : Expr) (hp : pureE e = true) (hnt : NoTmpE e)
    (k fuel : Nat) (σ σ' : State) (v : Val)
    (hsrc : Core.evalE fns fuel σ e = (.ok v, σ'))
    (hb : σ.budget = none) (hloc : ∀ n, σ.Loc (tmp n)) :
    ∃ τ, exec ((lowerE (dialect l false) e k).1.length + 1) σ (lowerE (dialect l false) e k).1 = (.normal, τ) ∧
      τ.evalOpd (lowerE (dialect l false) e k).2.1 = .ok v ∧
      τ.heap = σ'.heap ∧ τ.out = σ'.out ∧ τ.env = σ'.env ∧
      ∀ x, (∀ n, x ≠ tmp n) → τ.lookup x = σ'.lookup x := by
  obtain ⟨τ, c⟩ := lowerE_sim (dialect l false) (dialect_ok l) fns fuel e hp hnt k hsrc
    (.refl hb hloc)
  exact ⟨τ, c.steps.exec_eq, c.val, c.sim.obs⟩

def exE : Expr :=
  .bin .lt (.bin .mul (.bin .add (.var "x") (.int 2)) (.un .neg (.var "y"))) (.bin .add (.int 4) (.int 6))
def exS : State :=
  { heap := [], frames := [{ vars := [("x", some (.int 3)), ("y", some (.int 4))] }], env := [0] }
def okv (r : Res Val) : Option Val :=
  match r with
  | .ok v => some v
  | .error _ => none

/-- Non-vacuity: `(x + 2) * -y < 4 + 6` with x = 3, y = 4 is in the fragment and evaluates to true; the C
rows are five statements computing it in `%vv5`, the Java rows four (`4 + 6` is folded to `10`). -/
example :
    pureE exE = true ∧ okv (Core.evalE [] 10 exS exE).1 = some (.bool true) ∧
    (lowerE (dialect .c false) exE 0).2.1 = .var "%vv5" ∧ (lowerE (dialect .c false) exE 0).1.length = 5 ∧
    okv ((exec 6 exS (lowerE (dialect .c false) exE 0).1).2.lookup "%vv5") = some (.bool true) ∧
    (lowerE (dialect .java false) exE 0).1.length = 4 ∧
    okv ((exec 6 exS (lowerE (dialect .java false) exE 0).1).2.lookup "%vv4") = some (.bool true) := by
  decide +kernel

/-- **C02, statement handlers, loop-free and call-free fragment, each of the seven dialect rows**
(`bodyFrag`: declaration with initialiser, assignment to a name, expression statement, the output
statement, `if`/`else` nested arbitrarily, `return`, all over pure expressions).  For every language
`l` and every state `σ` whose current frame declares nothing `global`/`nonlocal` and in which the output
function of `l` (`print` / `output`) is the built-in: if the reference semantics of the core language
(`Core.execS`) ends `B` normally or by `return w` in `σ'`, then for some fuel the statements the model of
`l`'s handlers emits for `B` end from `σ` with the same outcome (same returned value), in a state that
differs from `σ'` in temporaries only — the OUTPUT LOG included in what agrees.  Returned values, output arguments, branch conditions and arms,
declarations and their initialisers, statement order and the `variable_decl`/`assign_stmt` pairs of
each dialect (with or without a declaration per assignment, with or without `expression_stmt`) are
therefore preserved on this fragment, in all seven dialects.  For Python and PHP this is the handler
output BEFORE the tmp-elimination / hoisting passes. -/
theorem C02_preserves_partial (l : Lang) (fns : List FnDef) (B : List Core.Stmt)
    (hf : bodyFrag B = true) (hnt : NoTmpB B) (hnn : NotNamedB (dialect l false).outName B)
    (k fuel : Nat) (σ σ' : State) (o : Outcome)
    (hsrc : Core.execS fns fuel σ B = (o, σ')) (ho : o = .normal ∨ ∃ w, o = .ret w)
    (hb : σ.budget = none) (hloc : ∀ x, σ.Loc x)
    (hout : σ.lookup (dialect l false).outName = .ok (.builtin (dialect l false).outName)) :
    ∃ τ N, exec N σ (lowerB (dialect l false) B k).1 = (o, τ) ∧
      τ.heap = σ'.heap ∧ τ.out = σ'.out ∧ τ.env = σ'.env ∧
      ∀ x, (∀ n, x ≠ tmp n) → τ.lookup x = σ'.lookup x := by
  obtain ⟨τ, hs', hruns⟩ :=
    lowerB_sim (dialect l false) (dialect_ok l) fns fuel B hf hnt hnn k hsrc ho
      ⟨.refl hb hloc, hout⟩
  obtain ⟨N, hN⟩ := hruns.exec_eq
  exact ⟨τ, N, hN N (Nat.le_refl N), hs'.sim2.obs⟩

/-- `t = x * 2` / `output(t)` / `if t > y: t = t - y; z = 1; output(z)` / `else: return t + 1` / `return t - y` -/
def exB : List Core.Stmt :=
  [ .decl "t" .int (.bin .mul (.var "x") (.int 2)),
    .out (.var "t"),
    .ifS (.bin .gt (.var "t") (.var "y"))
      [.assign "t" (.bin .sub (.var "t") (.var "y")), .decl "z" .int (.int 1), .out (.var "z")]
      [.ret (.bin .add (.var "t") (.int 1))],
    .ret (.bin .sub (.var "t") (.var "y")) ]

def obsOf (r : Outcome × State) : Option (Val × List String) :=
  match r.1 with
  | .ret v => some (v, r.2.out.reverse)
  | _ => none

/-- Non-vacuity: `exB` is in the fragment; with x = 3, y = 4 the reference semantics prints 6 and 1 and
returns -2 through the `if` arm, and so do the rows of each of the seven dialects. -/
example :
    bodyFrag exB = true ∧ obsOf (Core.execS [] 20 exS exB) = some (.int (-2), ["6", "1"]) ∧
    [Lang.python, .javascript, .typescript, .java, .go, .c, .php].all (fun l =>
      obsOf (exec 30 exS (lowerB (dialect l false) exB 0).1) == some (.int (-2), ["6", "1"])) = true := by
  decide +kernel

-- OPEN (not proved): the full statement of C02 for the modelled fragment,
--   ∀ l, ∀ p : Program with inFragment l p, ∀ entry args fuel,
--     runCore fuel p entry args = r  →  r.result is not an error  →  (no open-defect shape of l in p)  →
--     ∃ fuel', runEntry fuel' (execView l (lowerProgram l false p)) entry args = r
--   i.e. additionally: `while` / counted `for` / break / continue, calls of user functions and
--   parameter binding, `and`/`or` (strict in every frontend: open finding), the passes that run for
--   Python/PHP/JavaScript (tmp elimination, declaration hoisting), the Java class wrapper and the Go
--   `%unit_init`; and its extension to arrays and records and to JavaScript (not modelled).  Also
--   C02_same_skeleton of DESIGN §5 (CFG isomorphism between the lowerings of two languages) is not
--   stated.  Only monitored: LEG 1 compares `lowerProgram` with lian's real rows, LEG 1b runs `runEntry`
--   on the model's output against `runCore`, and the monitor executes lian's REAL rows of all seven
--   languages (whole core language) against `runCore`.

def runModel (l : Lang) (pinned : Bool) (p : Program) (entry : String) (args : List Val) : Option Obs :=
  (lowerProgram l pinned p).map (fun out => runEntry 60 (execView l out) entry args)

/-- `add(a, b) = a + b` / `entry(x): y = add(x, 3); output(y); return y + 1` -/
def callProg : Program :=
  { fns := [ { name := "add", params := [("a", .int), ("b", .int)], ret := .int,
               body := [.ret (.bin .add (.var "a") (.var "b"))] },
             { name := "entry", params := [("x", .int)], ret := .int,
               body := [.decl "y" .int (.call "add" [.var "x", .int 3]), .out (.var "y"),
                        .ret (.bin .add (.var "y") (.int 1))] } ] }

/-- `entry(x): return x + 1` -/
def retProg : Program :=
  { fns := [ { name := "entry", params := [("x", .int)], ret := .int, body := [.ret (.bin .add (.var "x") (.int 1))] } ] }

/-- **Defect of the pinned commit (C02/go-return-args-vocabulary), frozen model; repaired by
95f8c33 + 2a47cf4.**  `entry(4)` prints 7 and returns 8.  In the rows of the pinned Go frontend the call
arguments sit in an attribute (`args`) the common semantics — like every analysis — does not read:
`add` is called without arguments; and `return x + 1` is the unknown operation `return{target}`.  The
rows of the repaired frontend compute both programs, as do those of the other modelled frontends. -/
theorem C02_go_pinned_not_preserved :
    runCore 60 callProg "entry" [.int 4] = { out := ["7"], result := "ok 8" } ∧
    runModel .go true callProg "entry" [.int 4]
      = some { out := [], result := "err:raise:TypeError:missing-argument:a" } ∧
    runCore 60 retProg "entry" [.int 4] = { out := [], result := "ok 5" } ∧
    runModel .go true retProg "entry" [.int 4] = some { out := [], result := "err:unsupported:return" } ∧
    [Lang.python, .typescript, .java, .go, .c, .php].all (fun l =>
      runModel l false callProg "entry" [.int 4] == some { out := ["7"], result := "ok 8" } &&
      runModel l false retProg "entry" [.int 4] == some { out := [], result := "ok 5" }) = true := by
  decide +kernel

/-- `say(n): output(n); return n` / `entry(): return say(1) - say(2)` -/
def orderProg : Program :=
  { fns := [ { name := "say", params := [("n", .int)], ret := .int, body := [.out (.var "n"), .ret (.var "n")] },
             { name := "entry", params := [], ret := .int,
               body := [.ret (.bin .sub (.call "say" [.int 1]) (.call "say" [.int 2]))] } ] }

/-- **Defect of the pinned commit (C02/typescript-right-operand-first), frozen model; repaired by
bcad2d0.**  `say(1) - say(2)` prints 1 then 2.  The pinned TypeScript frontend parsed the right operand
first: its rows print 2 then 1 (the value is the same); the repaired rows agree with the reference. -/
theorem C02_typescript_operand_order :
    runCore 60 orderProg "entry" [] = { out := ["1", "2"], result := "ok -1" } ∧
    runModel .typescript true orderProg "entry" [] = some { out := ["2", "1"], result := "ok -1" } ∧
    runModel .typescript false orderProg "entry" [] = some { out := ["1", "2"], result := "ok -1" } := by
  decide +kernel

/-- `entry(x): if 5 <= 4: return 1` / `return 0`   and   `entry(x): return true and true` -/
def foldProg : Program :=
  { fns := [ { name := "entry", params := [("x", .int)], ret := .int,
               body := [.ifS (.bin .le (.int 5) (.int 4)) [.ret (.int 1)] [], .ret (.int 0)] } ] }
def foldProg2 : Program :=
  { fns := [ { name := "entry", params := [("x", .int)], ret := .bool,
               body := [.ret (.and (.bool true) (.bool true))] } ] }

/-- **Defects of the pinned commit (C02/java-fold-python-spelling, C02/java-fold-unevaluable-text),
frozen model; repaired by fc4f7c2 + a1b441e.**  The pinned Java frontend folded `5 <= 4` with Python's
`eval` and wrote the result as `False` — a NAME for every reader of the row — and pasted the source text
`true&&true` of an expression `eval` rejects into the operand.  The repaired rows are right. -/
theorem C02_java_fold_spelling :
    runCore 60 foldProg "entry" [.int 0] = { out := [], result := "ok 0" } ∧
    runModel .java true foldProg "entry" [.int 0] = some { out := [], result := "err:raise:NameError:False" } ∧
    runModel .java false foldProg "entry" [.int 0] = some { out := [], result := "ok 0" } ∧
    runCore 60 foldProg2 "entry" [.int 0] = { out := [], result := "ok True" } ∧
    runModel .java true foldProg2 "entry" [.int 0] = some { out := [], result := "err:raise:NameError:true&&true" } ∧
    runModel .java false foldProg2 "entry" [.int 0] = some { out := [], result := "ok True" } := by
  decide +kernel

/-- `entry(a): s = 0; i = 0; while i < 2: i = i + 1; s = s + a` / `return s` -/
def phpProg : Program :=
  { fns := [ { name := "entry", params := [("a", .int)], ret := .int,
               body := [.decl "s" .int (.int 0), .decl "i" .int (.int 0),
                        .whileS (.bin .lt (.var "i") (.int 2))
                          [.assign "i" (.bin .add (.var "i") (.int 1)), .assign "s" (.bin .add (.var "s") (.var "a"))],
                        .ret (.var "s")] } ] }

def bodyDecls (out : Option (List Gir.Stmt)) : List String :=
  match out with
  | some [.methodDecl _ _ b] => declsL b
  | _ => []

/-- **Defect of the pinned commit (C02/php-variable-redeclared-in-nested-block), frozen model; repaired
by be521c8.**  In the pinned PHP rows every assignment keeps its own `variable_decl`: `s` and `i` are
declared at the top of the function AND again inside the loop body (a block-scoped reader — lian's
scope analysis — binds the `s` of the loop to a different symbol than the `s` that is returned).  In the
repaired rows each variable is declared exactly once. -/
theorem C02_php_block_redeclaration :
    bodyDecls (lowerProgram .php true phpProg) = ["s", "i", "i", "s"] ∧
    bodyDecls (lowerProgram .php false phpProg) = ["i", "s"] := by
  decide +kernel

/-- `noisy(v): output(v); return true` / `entry(x): return (x > 0) and noisy(1)` -/
def boolProg : Program :=
  { fns := [ { name := "noisy", params := [("v", .int)], ret := .bool, body := [.out (.var "v"), .ret (.bool true)] },
             { name := "entry", params := [("x", .int)], ret := .bool,
               body := [.ret (.and (.bin .gt (.var "x") (.int 0)) (.call "noisy" [.int 1]))] } ] }

/-- **OPEN defect (C02/bool-no-short-circuit; C01/bool-no-short-circuit for Python), live model.**
`(0 > 0) and noisy(1)`: the reference semantics does not call `noisy`; the rows of EVERY modelled
frontend evaluate both operands and emit one strict `assign_stmt`: `noisy` runs (one output). -/
theorem C02_bool_not_short_circuit :
    runCore 60 boolProg "entry" [.int 0] = { out := [], result := "ok False" } ∧
    [Lang.python, .typescript, .java, .go, .c, .php].all (fun l =>
      runModel l false boolProg "entry" [.int 0] == some { out := ["1"], result := "ok False" }) = true := by
  decide +kernel

/-- `entry(n): i = 0; while i < n: i = i + 1; if i == n: continue; output(i)` / `return i` -/
def whileProg : Program :=
  { fns := [ { name := "entry", params := [("n", .int)], ret := .int,
               body := [ .decl "i" .int (.int 0),
                         .whileS (.bin .lt (.var "i") (.var "n"))
                           [ .assign "i" (.bin .add (.var "i") (.int 1)),
                             .ifS (.bin .eq (.var "i") (.var "n")) [.cont] [],
                             .out (.var "i") ],
                         .ret (.var "i") ] } ] }

/-- **OPEN defect (C02/while-continue-stale-condition; C01's for Python), live model.**  With n = 2
the reference semantics prints 1 and returns 2.  Python, PHP and TypeScript (and JavaScript) put the
statements that evaluate the loop condition before the loop and at the END of the body: `continue`
skips them, the loop runs once more (prints 1 and 3, returns 3).  Java, C and Go put them into
`condition_prebody`: right. -/
theorem C02_while_continue_stale_condition :
    runCore 80 whileProg "entry" [.int 2] = { out := ["1"], result := "ok 2" } ∧
    [Lang.python, .php, .typescript].all (fun l =>
      runModel l false whileProg "entry" [.int 2] == some { out := ["1", "3"], result := "ok 3" }) = true ∧
    [Lang.java, .c, .go].all (fun l =>
      runModel l false whileProg "entry" [.int 2] == some { out := ["1"], result := "ok 2" }) = true := by
  decide +kernel

end LianVerif.C02
