/-
C09 — Points-to results are flow-, field- and call-site-sensitive where advertised; binary operations on
constants yield exactly the results of the operand combinations.

Models: LianVerif/Model/Aref.lean (reference abstract interpreter), LianVerif/Model/Fold.lean (folding).
Spec:   LianVerif/Spec/Collect.lean (all executions of a loop-free program).
-/
import LianVerif.Proofs.ArefExact
import LianVerif.Proofs.Fold

namespace LianVerif.C09
open LianVerif.PyStrLit LianVerif.Fold LianVerif.Aref LianVerif.Collect LianVerif.ArefProofs LianVerif.FoldProofs

/-- **C09 (exactness), partial: object-free, call-free programs with linear binary operations.**
For every sound and exact abstract binary operation and every loop-free program built from constants,
copies, binary operations with at most one variable operand, sequencing and `if`/`else` on fresh
decisions, none of whose executions raises: the reference interpreter's result is EXACTLY the collecting
semantics — every abstract element is a constant the definition takes on some execution path (no unknown, no
overwritten value retained, nothing invented), and conversely. -/
theorem C09_exact_partial (ab : ABin) (hs : ABinSound ab) (hx : ABinExact ab) (P : Prog)
    (hc : CoreLin P.body = true) (hn : NoStuck P P.body (fun ρ => ρ = CEnv.empty))
    (res : Log) (hrun : run ab P = some res) :
    (∀ k A, (k, A) ∈ res → ∀ a ∈ A, ∃ pv, a = AVal.const pv ∧ Takes P k (.prim pv)) ∧
    (∀ k v, Takes P k v → ∃ A, (k, A) ∈ res ∧ covers A v) :=
  ⟨fun _ _ hA _ ha => exact_run ab hs hx P hc hn hrun hA ha,
    fun _ _ hv => sound_run ab hs P (writesOK_of_coreLin ab P P.body hc AEnv.empty) hrun hv⟩

/-
-- OPEN (not proved):
-- theorem C09_exact : the same for the whole C09 fragment (objects reached through a single allocation per
--   variable, field read/write with distinct field names, helper functions called from several sites) and with
--   `ab := foldBin` (`ABinExact foldBin` is not proved).  These parts are tied by the correspondence check only.
-/

/-- `x = 1; if d0: x = 2 else: y = x + 3; z = x * 2`: with the ideal folding it satisfies all hypotheses of
`C09_exact_partial`. -/
def wExact : Prog :=
  { classes := [], helpers := [],
    body := .seq (.const "1" "x" (.int 1))
           (.seq (.ite 0 (.const "2" "x" (.int 2)) (.bin "3" "y" "+" (.var "x") (.const (.int 3))))
                 (.bin "4" "z" "*" (.var "x") (.const (.int 2)))) }

example : (run idealBin wExact).map (fun l => l.map (fun p => (p.1, p.2.length))) =
    some [("1", 1), ("2", 1), ("3", 1), ("4", 2)] := by decide +kernel

theorem wExact_noStuck : NoStuck wExact wExact.body (fun ρ => ρ = CEnv.empty) := by
  refine ⟨fun _ _ => nofun, ⟨fun _ _ => nofun, ?_⟩, ?_⟩
  · rintro _ ⟨_, rfl, r, hr, rfl⟩
    cases Option.mem_toList.1 hr
    decide
  · rintro _ ⟨_, ⟨_, rfl, r1, hr1, rfl⟩, r, hr, rfl⟩
    cases Option.mem_toList.1 hr1
    rcases mem_runs_ite.1 hr with hr | hr <;> cases Option.mem_toList.1 hr <;> decide

example :
    (∀ k A, (k, A) ∈ [("1", [AVal.const (.int 1)]), ("2", [.const (.int 2)]), ("3", [.const (.int 4)]),
        ("4", [.const (.int 4), .const (.int 2)])] → ∀ a ∈ A, ∃ pv, a = AVal.const pv ∧ Takes wExact k (.prim pv)) :=
  (C09_exact_partial idealBin idealBin_sound idealBin_exact wExact (by decide) wExact_noStuck _ (by decide +kernel)).1

/-- **flow sensitivity: an overwritten value is not retained** (`x = 1; x = 2; y = x`). -/
theorem C09_overwritten_value_not_retained (ab : ABin) (P : Prog) (σ : AEnv) (c1 c2 : PyVal) :
    (exec ab P (.seq (.const "1" "x" c1) (.seq (.const "2" "x" c2) (.copy "3" "y" "x"))) σ).map (·.2) =
      some [("1", [.const c1]), ("2", [.const c2]), ("3", [.const c2])] := by
  rfl

/-- **field sensitivity: writing one field of one object leaves every other field and object untouched.** -/
theorem C09_field_write_is_local (heap : Site × String → Option ASet) (s s' : Site) (f g : String) (v : ASet)
    (h : (s', g) ≠ (s, f)) : writeAll heap f v [s] (s', g) = heap (s', g) :=
  upd_other heap v h

/-- **call-site sensitivity: the result of a call is determined by the arguments of that call site** — two
abstract stores that give the arguments of the call the same sets yield the same result set and the same
sets for the callee's parameters and locals, whatever was passed at other sites. -/
theorem C09_call_result_depends_on_own_arguments (ab : ABin) (P : Prog) (k : Key) (x : Var) (h : String)
    (args : List Opnd) (σ σ' : AEnv) (hargs : args.map (evalOpnd σ) = args.map (evalOpnd σ')) :
    (exec ab P (.call k x h args) σ).map (·.2) = (exec ab P (.call k x h args) σ').map (·.2) := by
  unfold exec
  simp only [hargs]
  cases P.helpers.find? (fun hp => hp.name = h) with
  | none => rfl
  | some hp =>
    simp only
    cases execH ab hp.body (bindParams hp.params (args.map (evalOpnd σ'))).1
        (bindParams hp.params (args.map (evalOpnd σ'))).2 with
    | none => rfl
    | some r => rfl

/-- pinned commit: `7 - 7` and `1 < 0` yield an unknown (ANYTHING) state — the results 0 and False are
discarded; the repaired code folds them. -/
theorem C09_unfixed_falsy_result_dropped :
    binStates0 "-" [.reg ⟨.str [55], .int⟩] [.reg ⟨.str [55], .int⟩] = .states [.anything] ∧
    binStates asciiPrintable "-" [.reg ⟨.str [55], .int⟩] [.reg ⟨.str [55], .int⟩] = .states [.val (.int 0) .int] ∧
    binStates0 "<" [.reg ⟨.str [49], .int⟩] [.reg ⟨.str [48], .int⟩] = .states [.anything] ∧
    binStates asciiPrintable "<" [.reg ⟨.str [49], .int⟩] [.reg ⟨.str [48], .int⟩] = .states [.val (.bool false) .int] := by
  decide +kernel

/-- **current code: one result state per operand combination, and nothing else, when every combination
folds** (all operand states REGULAR, every pair yields a state): no unknown state is added, no pair is
skipped, no other state appears. -/
theorem C09_binop_all_combinations (P : Ch → Bool) (opText : String) (S1 S2 : List AState)
    (hreg1 : S1.contains .nonreg = false) (hreg2 : S2.contains .nonreg = false)
    (hne : regPairs S1 S2 ≠ [])
    (hall : ∀ p ∈ regPairs S1 S2, ∃ v dt, fold P opText p.1 p.2 = .state v dt) :
    binStates P opText S1 S2 =
      .states ((regPairs S1 S2).map (fun p => outVal (fold P opText p.1 p.2))) ∧
    OState.anything ∉ (regPairs S1 S2).map (fun p => outVal (fold P opText p.1 p.2)) := by
  have hall' : ∀ o ∈ (regPairs S1 S2).map (fun p => fold P opText p.1 p.2), ∃ v dt, o = Out.state v dt := by
    intro o ho
    obtain ⟨p, hp, rfl⟩ := List.mem_map.1 ho
    exact hall p hp
  have hfm := anything_not_mem_map_outVal _ hall'
  rw [List.map_map] at hfm
  refine ⟨binStates_eq_states.2 ⟨_, collect_all_states _ hall', ?_⟩, hfm⟩
  have hemp : (((regPairs S1 S2).map (fun p => fold P opText p.1 p.2)).map outVal).isEmpty = false := by
    rw [List.isEmpty_map, List.isEmpty_map, List.isEmpty_eq_false_iff]
    exact hne
  have hsk : someSkipped S1 S2 ((regPairs S1 S2).map (fun p => fold P opText p.1 p.2)) = false := by
    rw [someSkipped, hreg1, hreg2, contains_false_of_all_states _ hall' .none (fun _ _ => Out.noConfusion),
      Bool.and_false]
    rfl
  rw [hemp, hsk, if_neg (by decide), List.map_map]
  rfl

end LianVerif.C09
