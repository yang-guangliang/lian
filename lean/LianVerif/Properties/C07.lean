/-
C07 — Every call that can happen at run time is in the computed call graph.

Model: LianVerif/Model/Frames.lean — the phase-III frame-stack DRIVER (analyze_frame_stack,
init_compute_frame, compute_target_method_states, count_cycles, PathManager) with statement analysis
(call resolution inside stmt_states.py) as an ORACLE.  Every theorem below quantifies over all oracles:
they say what the driver guarantees GIVEN what resolution produced.  That resolution itself finds every
run-time callee is NOT proved; it is monitored against CPython call logs (harness/lv/c07.py).
-/
import LianVerif.Proofs.Frames
import LianVerif.Proofs.FramesAcyclic
import LianVerif.Spec.FramesWitness
import LianVerif.Spec.SchedWitness

namespace LianVerif.C07
open LianVerif.Frames LianVerif.PathStore

/-- **C07 (decision logic, stated outright).**  In one invocation of `compute_target_method_states`
with duplicate-free callee ids, a resolved callee is selected for descent (a frame will be created for it
under this call site) iff none of the four cut-off tests fires: extended call path already stored, second
cycle on it, call site marked in the frame's `content_already_analyzed`, counter over budget. -/
theorem C07_descend_iff (max : Nat) (store : Store Site) (f : Frame) (stmt : Nat) (ctr : Counter)
    (cs : List Nat) (hnd : cs.Nodup) (c : Nat) :
    c ∈ (firstLoop max store f stmt cs ctr []).2 ↔
      (c ∈ cs ∧ store.terms.contains (f.path ++ [(f.method, stmt, c)]) = false ∧
        countCycles (f.path ++ [(f.method, stmt, c)]) ≤ 1 ∧
        caaGet f.caa (f.method, stmt, c) = false ∧
        ctrGet ctr (f.method, stmt, c) ≤ max) := by
  rw [firstLoop_filter max store f stmt ctr cs hnd ctr [] (fun _ _ => rfl)]
  simp only [List.nil_append, List.mem_filter, descendOk, Bool.not_eq_true', Bool.or_eq_false_iff,
    decide_eq_false_iff_not, Nat.not_lt]
  constructor
  · rintro ⟨h1, ⟨⟨h2, h3⟩, h4⟩, h5⟩; exact ⟨h1, h2, h3, h4, h5⟩
  · rintro ⟨h1, h2, h3, h4, h5⟩; exact ⟨h1, ⟨⟨h2, h3⟩, h4⟩, h5⟩

/-- **C07 (termination of the driver: frames bound).**  For EVERY oracle (cyclic call relations
included): if all call sites the oracle can produce lie in a finite list `U`, then the driver creates
at most `1 + (max+1)·|U|` frames for one entry point — whatever the fuel, the store it starts from and
the serial it starts at.  (`max` = MAX_ANALYSIS_ROUND_FOR_CALL_SITE.) -/
theorem C07_frames_bound (max : Nat) (oracle : Oracle) (U : List Site) (hU : SitesIn oracle U)
    (fuel entry : Nat) (store : Store Site) (k : Nat) (log : List Event) :
    (drive max oracle fuel (initSt oracle entry store k log)).created ≤ k + 1 + (max + 1) * U.length :=
  (drive_boundInv max oracle U hU k (countCreates log) fuel _
    (initSt_boundInv max oracle U hU entry store k log)).created_le

/-- the same bound counted on the log: frames pushed by the driver for this entry point -/
theorem C07_frames_bound_log (max : Nat) (oracle : Oracle) (U : List Site) (hU : SitesIn oracle U)
    (fuel entry : Nat) :
    countCreates (runEntry max oracle fuel entry).log ≤ (max + 1) * U.length := by
  have h := (drive_boundInv max oracle U hU 0 (countCreates []) fuel _
    (initSt_boundInv max oracle U hU entry Store.empty 0 [])).creates_le
  rwa [show countCreates [] = 0 from rfl, Nat.zero_add] at h

/-- **C07 (termination of the driver).**  For EVERY oracle whose call sites lie in a finite list `U`
(cyclic call relations included), `3·(MAX+1)·|U| + 1` iterations of the frame-stack loop suffice to
empty the stack of one entry point, from any store and serial: every iteration decreases `psi`. -/
theorem C07_driver_terminates (max : Nat) (oracle : Oracle) (U : List Site) (hU : SitesIn oracle U)
    (fuel entry : Nat) (store : Store Site) (k : Nat) (log : List Event)
    (hfuel : 3 * ((max + 1) * U.length) + 1 ≤ fuel) :
    (drive max oracle fuel (initSt oracle entry store k log)).stack = [] :=
   drive_terminates max oracle U hU k (countCreates log) fuel _
    (initSt_boundInv max oracle U hU entry store k log)
    (Nat.le_trans (psi_le_of_entry (initSt_created ..) (initSt_stack_length ..)) hfuel)

/-- **C07 (partial, every oracle).**  Whenever an invocation of `compute_target_method_states` runs
through without interruption, every resolved callee other than the caller itself is from then on an
edge of a stored call path (`path_manager.add_path` is called in the cut-off branch, and stored
paths are only ever replaced by extensions).  PARTIAL: nothing is promised for `callee = caller`
(the code records no path then — see `C07_selfcall_cut_not_recorded`), and an edge being recorded
does not mean the callee was analysed under that call site. -/
theorem C07_cutoff_edge_recorded_partial (max : Nat) (oracle : Oracle) (fuel entry : Nat)
    (n m stmt : Nat) (cs rs : List Nat)
    (hev : Event.cts n m stmt cs [] rs ∈ (runEntry max oracle fuel entry).log)
    (c : Nat) (hc : c ∈ cs) (hne : c ≠ m) :
    edgeInStore (runEntry max oracle fuel entry).store (m, stmt, c) = true := by
  have h := drive_storeInv max oracle fuel _ (initSt_storeInv oracle entry)
  rw [edgeInStore_iff]
  exact h.good _ hev rfl c hc hne

/-- every frame that was initialised has all the edges of its call path in the store -/
theorem C07_framed_path_recorded (max : Nat) (oracle : Oracle) (fuel entry : Nat)
    (n m : Nat) (p : List Site)
    (hev : Event.init n m p true ∈ (runEntry max oracle fuel entry).log) (site : Site) (hs : site ∈ p) :
    edgeInStore (runEntry max oracle fuel entry).store site = true := by
  have h := drive_storeInv max oracle fuel _ (initSt_storeInv oracle entry)
  rw [edgeInStore_iff]
  exact h.good _ hev site hs

inductive Reach (resolved : Nat → List (Nat × Nat)) (entry : Nat) : Nat → Prop
  | refl : Reach resolved entry entry
  | step {M S F : Nat} : Reach resolved entry M → (S, F) ∈ resolved M → Reach resolved entry F

theorem complete_of_acycInv {oracle : Oracle} {rk : Nat → Nat} {resolved : Nat → List (Nat × Nat)} {entry : Nat}
    {s : St} (hI : AcycInv oracle rk s) (hdone : s.stack = [])
    (hent : Event.init 0 entry [] (oracle 0 entry).inits ∈ s.log)
    (hcover : ∀ n M S F, (S, F) ∈ resolved M → ∃ inv ∈ (oracle n M).script, inv.stmt = S ∧ F ∈ inv.callees)
    (hinit : ∀ n M S F, (S, F) ∈ resolved M → (oracle n M).inits = true)
    {M S F : Nat} (hreach : Reach resolved entry M) (hSF : (S, F) ∈ resolved M) :
    createdFor s.log (M, S, F) = true ∧
      ((∀ n, (oracle n F).inits = true) → edgeInStore s.store (M, S, F) = true) := by
  -- the frame of an initialised method is gone (empty stack): everything it was shown has a frame
  have edge : ∀ {n M p S F}, Event.init n M p true ∈ s.log → (S, F) ∈ resolved M →
      Created s.log (M, S, F) := by
    intro n M p S F hev hSF
    obtain ⟨inv, hinv, rfl, e2⟩ := hcover n M S F hSF
    exact hI.all_created hdone hev inv hinv F e2
  -- every reachable method that has a resolved callee was initialised in some frame
  have key : ∀ M, Reach resolved entry M → ∀ S F, (S, F) ∈ resolved M →
      ∃ n p, Event.init n M p true ∈ s.log := by
    intro M hreach
    induction hreach with
    | refl => exact fun S F hSF => ⟨0, [], hinit 0 entry S F hSF ▸ hent⟩
    | @step M' S' F' _ hSF' ih =>
      intro S F hSF
      obtain ⟨n, p, hev⟩ := ih S' F' hSF'
      obtain ⟨k, hk⟩ := edge hev hSF'
      obtain ⟨p', hp'⟩ := hI.createdInit k _ hk
      exact ⟨k, p', hinit k F' S F hSF ▸ hp'⟩
  obtain ⟨n, p, hev⟩ := key M hreach S F hSF
  obtain ⟨k, hk⟩ := edge hev hSF
  exact ⟨(createdFor_iff _ _).2 ⟨k, hk⟩, fun hF => (edgeInStore_iff _ _).2 (hI.createdEdge k _ hk (hF k))⟩

/-- **C07 (acyclic completeness of the driver).**  Let `resolved M` be a set of (call statement,
callee) pairs such that every frame of `M` is shown each of them in some invocation (`hcover`:
"statement analysis resolves at least `resolved`, in every context"), let every method with resolved
callees have a body (`hinit`), and let the call relation the oracle can produce be ranked, i.e.
acyclic (`hR`).  Then, once the driver has emptied its stack, every resolved edge `(M, S, F)` with `M`
reachable from the entry point has had a frame created for `F` under exactly that call site — `F`
is analysed under `S` — and, if `F` has a body, the edge is in a stored call path.  No budget
hypothesis is needed: the first frame of `M` always finds the counters of its own call sites at 0. -/
theorem C07_acyclic_complete (max : Nat) (oracle : Oracle) (rk : Nat → Nat)
    (resolved : Nat → List (Nat × Nat)) (fuel entry : Nat)
    (hR : Ranked oracle rk)
    (hcover : ∀ n M S F, (S, F) ∈ resolved M → ∃ inv ∈ (oracle n M).script, inv.stmt = S ∧ F ∈ inv.callees)
    (hinit : ∀ n M S F, (S, F) ∈ resolved M → (oracle n M).inits = true)
    (hdone : (runEntry max oracle fuel entry).stack = []) :
    ∀ M S F, Reach resolved entry M → (S, F) ∈ resolved M →
      createdFor (runEntry max oracle fuel entry).log (M, S, F) = true ∧
      ((∀ n, (oracle n F).inits = true) →
        edgeInStore (runEntry max oracle fuel entry).store (M, S, F) = true) :=
  fun _ _ _ => complete_of_acycInv (drive_core max oracle rk hR fuel _ (initSt_core oracle rk hR entry)).acycInv
    hdone (drive_log_mono max oracle fuel _ _ (initSt_entry_event oracle entry)) hcover hinit

/-- the same with the termination hypothesis discharged: enough fuel instead of "the stack is empty" -/
theorem C07_acyclic_complete_total (max : Nat) (oracle : Oracle) (rk : Nat → Nat)
    (resolved : Nat → List (Nat × Nat)) (U : List Site) (fuel entry : Nat)
    (hR : Ranked oracle rk) (hU : SitesIn oracle U)
    (hcover : ∀ n M S F, (S, F) ∈ resolved M → ∃ inv ∈ (oracle n M).script, inv.stmt = S ∧ F ∈ inv.callees)
    (hinit : ∀ n M S F, (S, F) ∈ resolved M → (oracle n M).inits = true)
    (hfuel : 3 * ((max + 1) * U.length) + 1 ≤ fuel) :
    ∀ M S F, Reach resolved entry M → (S, F) ∈ resolved M →
      createdFor (runEntry max oracle fuel entry).log (M, S, F) = true ∧
      ((∀ n, (oracle n F).inits = true) →
        edgeInStore (runEntry max oracle fuel entry).store (M, S, F) = true) :=
  C07_acyclic_complete max oracle rk resolved fuel entry hR hcover hinit
    (C07_driver_terminates max oracle U hU fuel entry Store.empty 0 [] hfuel)

/-- non-vacuity of the hypotheses above: entry 3 calls 2 at statements 10 and 11, 2 calls 1 at statement 20; each call statement is analysed
twice (first visit interrupts, the re-analysis runs through) -/
def demoOracle : Oracle := fun _ m =>
  if m = 3 then { inits := true, script := [⟨10, [2]⟩, ⟨10, [2]⟩, ⟨11, [2]⟩, ⟨11, [2]⟩] }
  else if m = 2 then { inits := true, script := [⟨20, [1]⟩, ⟨20, [1]⟩] }
  else { inits := true, script := [] }

def demoResolved : Nat → List (Nat × Nat) := fun m =>
  if m = 3 then [(10, 2), (11, 2)] else if m = 2 then [(20, 1)] else []

theorem demoOracle_forall {P : Nat → Inv → Prop}
    (h3 : ∀ inv ∈ [(⟨10, [2]⟩ : Inv), ⟨10, [2]⟩, ⟨11, [2]⟩, ⟨11, [2]⟩], P 3 inv)
    (h2 : ∀ inv ∈ [(⟨20, [1]⟩ : Inv), ⟨20, [1]⟩], P 2 inv) :
    ∀ n m inv, inv ∈ (demoOracle n m).script → P m inv := by
  intro n m inv hinv
  unfold demoOracle at hinv
  split at hinv
  · rename_i h; subst h; exact h3 inv hinv
  · split at hinv
    · rename_i _ h; subst h; exact h2 inv hinv
    · cases hinv

example : Ranked demoOracle id :=
  demoOracle_forall (P := fun m inv => ∀ c ∈ inv.callees, id c < id m) (by decide) (by decide)

example : (runEntry 2 demoOracle 40 3).stack = [] ∧
    createdFor (runEntry 2 demoOracle 40 3).log (2, 20, 1) = true ∧
    edgeInStore (runEntry 2 demoOracle 40 3).store (2, 20, 1) = true ∧
    (runEntry 2 demoOracle 40 3).created = 5 := by decide +kernel

/-- the hypothesis `SitesIn` of `C07_frames_bound` holds of the demo oracle with three call sites: 4 frames
are pushed against the bound 3·3 = 9. -/
example : countCreates (runEntry 2 demoOracle 40 3).log = 4 ∧
    SitesIn demoOracle [(3, 10, 2), (3, 11, 2), (2, 20, 1)] :=
  ⟨by decide +kernel, demoOracle_forall
    (P := fun m inv => ∀ c ∈ inv.callees, (m, inv.stmt, c) ∈ [(3, 10, 2), (3, 11, 2), (2, 20, 1)]) (by decide) (by decide)⟩

/-! ### negative results on the driver as it is (no repair: the cut-offs are deliberate budget) -/

/-- corpus/C07/k_budget_third_context.json, harvested from the real run (methods: 9 = %unit_init,
5 = f, 4 = h, 1 = a1, 2 = b1, 3 = c1).  `h` calls whatever callback its context passes; any frame of `h`
created after the recorded ones would be shown the callback `c1` of the third context. -/
def budgetOracle : Oracle := tableOracle budgetTable
  (fun m => if m = 4 then [⟨8, [3]⟩, ⟨8, [3]⟩] else [])

/-- **The call-site budget ignores the calling context.**  The third context of `f` (frame 7) is shown
its callee `h` and refuses the descent because the counter of call site (f,10,h) is over budget
(reason 4), the invocation runs through, the driver terminates — and the callback `c1`, which only a
frame of `h` in that third context would resolve, never gets a frame nor an edge.  The hypothesis
`hcover` of `C07_acyclic_complete` ("resolved in every context") cannot be dropped. -/
theorem C07_budget_counterexample :
    (runEntry 2 budgetOracle 60 9).stack = [] ∧
    Event.cts 7 5 10 [4] [] [4] ∈ (runEntry 2 budgetOracle 60 9).log ∧
    (runEntry 2 budgetOracle 60 9).created = 8 ∧
    createdFor (runEntry 2 budgetOracle 60 9).log (4, 8, 3) = false ∧
    edgeInStore (runEntry 2 budgetOracle 60 9).store (4, 8, 3) = false := by decide +kernel

/-- corpus/C07/k_selfrec_edge_never_recorded.json, harvested from the real run (methods: 9 =
%unit_init, 5 = a, 3 = b1, 4 = b2, 2 = M; a calls b1, b2, M; b1 and b2 call a; M calls itself). -/
def selfrecOracle : Oracle := tableOracle selfrecTable (fun _ => [])

/-- **A self-recursive call that is only ever cut off is in no call path.**  Both frames of `M` sit on
paths that already closed a cycle, the descent into `M` from the cycle-free context is refused by the
budget, and the cut-off branch records no path when caller = callee: the invocations run through, yet
the edge (M,3,M) is nowhere in the store and `M` is never analysed under that call site.  This is the
case `C07_cutoff_edge_recorded_partial` excludes with `c ≠ m`. -/
theorem C07_selfcall_cut_not_recorded :
    (runEntry 2 selfrecOracle 80 9).stack = [] ∧
    Event.cts 5 2 3 [2] [] [2] ∈ (runEntry 2 selfrecOracle 80 9).log ∧
    Event.cts 8 2 3 [2] [] [2] ∈ (runEntry 2 selfrecOracle 80 9).log ∧
    Event.cts 1 5 16 [2] [] [4] ∈ (runEntry 2 selfrecOracle 80 9).log ∧
    createdFor (runEntry 2 selfrecOracle 80 9).log (2, 3, 2) = false ∧
    edgeInStore (runEntry 2 selfrecOracle 80 9).store (2, 3, 2) = false := by decide +kernel

/-! ### the statement scheduler of a frame, frozen at the pinned commit (`Sched0`) -/

/-- **After a callee descent the frame resumes at the wrong statement.**  On the real control-flow
graph of corpus/C07/k_resume_wrong_statement.json the frozen scheduler model visits statement 9
(`t = f4(1)`) exactly once, and that visit is *blind*: it directly follows the resume of the
interrupted statement 7, so `analyze_reachable_symbols` is skipped (`interruption_flag` set), the
statement has no symbol-graph node and its handler never runs.  Statement 7's own re-analysis happens
only after statement 9 has been consumed.  The call `f4(1)` is therefore never resolved. -/
theorem C07_unfixed_resume_skips_statement :
    LianVerif.Sched.schedule LianVerif.Sched.resumeCfg LianVerif.Sched.resumeOracle 200 =
      [(1, false), (2, false), (3, false), (4, false), (5, false), (7, false), (5, true), (8, false),
       (8, true), (7, false), (5, true), (8, false), (8, true), (7, false), (9, true), (7, false),
       (7, false), (7, false)] ∧
    (LianVerif.Sched.schedule LianVerif.Sched.resumeCfg LianVerif.Sched.resumeOracle 200).filter
      (fun v => v.1 == 9) = [(9, true)] := by decide +kernel

end LianVerif.C07
