/-
C14 — Analysis output is a deterministic function of the input.

Models: LianVerif/Model/Determinism.lean (every Python `set` iteration is an explicit list parameter:
"the elements in the order this interpreter produced").  Determinism of a site = its result does not
depend on that order.

What these theorems are NOT: a proof that lian as a whole is deterministic.  They cover the sites
listed below, one by one; the whole-run claim (identical files for every hash seed, repetition and
workspace location) is only monitored, by the seed sweep of harness/lv/c14.py.  Byte identity of
feather files is not expressible here (pyarrow) and is compared empirically.
-/
import LianVerif.Proofs.Determinism
import LianVerif.Properties.C19

namespace LianVerif.C14
open LianVerif.Determinism List

/-! ### 1. `StmtStates.map_arguments` (core/stmt_states.py) — live code, after the two repairs -/

/-- **C14 (parameter mapping).** The list of parameter mappings that `map_arguments` produces — and
with it the rows exported to `callee_parameter_mapping_p*.bundle*` and the order in which
`apply_parameter_mapping` later creates states — does not depend on
* the iteration order of the `rest_parameters` set (`all₁ ~ all₂`),
* the iteration order of each keyword argument's set of `Argument`s (`NamedRel`),
* the iteration order of the callee's `parameter_symbol_ids` set, over which the code runs a
  first-match-`break` loop (`d₁ ~ d₂`),
provided the sort keys are injective on those sets: parameter positions are pairwise distinct
(`prepare_parameters` numbers them with a counter), the `index_in_space` of the states of one keyword
argument are pairwise distinct (they are elements of a set of indexes), and no parameter symbol has two
entries in `parameter_symbol_ids`.  The three hypotheses are monitored on every harvested call.
The positional-argument sets are the same lists on both sides: their `Argument.__hash__` only involves
ints and the empty string, which do not depend on the hash seed (monitored as well). -/
theorem C14_perm_param_mapping (c : Consts)
    (positional : List Param) (packedPos packedNamed : Option Param) (posArgs : List (List Arg))
    {all₁ all₂ : List Param} {named₁ named₂ : List (String × List Arg)} {d₁ d₂ : List (Int × Int)}
    (hall : all₁ ~ all₂) (hpos : (all₁.map Param.position).Nodup)
    (hnamed : NamedRel named₁ named₂)
    (hd : d₁ ~ d₂) (hdk : (d₁.map Prod.fst).Nodup) :
    mapArgs c ⟨all₁, positional, packedPos, packedNamed, posArgs, named₁, d₁⟩ =
    mapArgs c ⟨all₂, positional, packedPos, packedNamed, posArgs, named₂, d₂⟩ :=
  mapArgs_perm c ⟨⟨hall, hpos⟩, rfl, rfl, rfl, rfl, hnamed, hd, hdk⟩

/-- **C14 (first-match `break` over a set).** `for pair in parameter_symbol_ids: if pair[0] == sym:
default = pair[1]; break` returns the same default for every iteration order of the set when no
parameter symbol has two entries ("all candidates give the same result": there is at most one). -/
theorem C14_perm_default_lookup {d₁ d₂ : List (Int × Int)} (hk : (d₁.map Prod.fst).Nodup) (h : d₁ ~ d₂)
    (sym : Int) : lookupDefault d₁ sym = lookupDefault d₂ sym :=
  lookupDefault_perm hk h sym

/-! ### 2. `StmtStates.require_stmt_state` — live code -/

/-- **C14 (require).** The order in which the REQUIRED_MODULE states are created does not depend on the
iteration order of the set of state indexes of the required name (indexes are pairwise distinct). -/
theorem C14_perm_require_values {s₁ s₂ : List (Int × String)} (hk : (s₁.map Prod.fst).Nodup) (h : s₁ ~ s₂) :
    requireValues s₁ = requireValues s₂ := by
  unfold requireValues
  rw [sortBy_eq_of_perm Prod.fst hk h]

/-! ### 2b. `typescript_parser.Parser.array` — live code -/

/-- **C14 (array literal types).** The live code iterates no set: `data_type` is a function of the
element list alone, a duplicate-free list with exactly the members of the element list — the members the
frozen code returns in set order (`arrayTypes0`). -/
theorem C14_array_types_same_set (elementTypes : List String) :
    (arrayTypes elementTypes).Nodup ∧ ∀ t, t ∈ arrayTypes elementTypes ↔ t ∈ elementTypes := by
  refine ⟨nodup_dedupFirst elementTypes [] List.nodup_nil, ?_⟩
  intro t
  rw [arrayTypes, mem_dedupFirst]
  simp

/-! ### 2c. `GIRParser.parse`: which units are extern mock code — live code -/

/-- **C14 (workspace location).** Whether a unit is preprocessed as extern mock code does not depend on the
unit's path, hence not on where the workspace lies: the live code consults the `is_extern` flag only.
(The statement is immediate from the model; its content is that the model — checked against the code on
every harvested `parse` call — takes no path.) -/
theorem C14_mock_unit_location_independent (isExtern : Bool) (path₁ path₂ : String) :
    mockUnit isExtern path₁ = mockUnit isExtern path₂ := rfl

/-! ### 2d. `ModuleSymbolsBuilder`: original path of a unit — live code -/

/-- **C14 (form of the workspace path).** The source path recorded for a scanned unit depends on the entry only
through its real path: the same workspace directory given to -w as a relative or as an absolute path yields
the same `original_path`. -/
theorem C14_original_path_form_independent (table : List (String × String)) (realpath : String → String)
    {p₁ p₂ : String} (h : realpath p₁ = realpath p₂) :
    originalPath table realpath p₁ = originalPath table realpath p₂ := by
  unfold originalPath; rw [h]

/-! ### 3. `GeneralLoader.convert_active_bundle_to_dataframe` -/

/-- **C14 (bundle export).** The rows of an exported bundle do not depend on the order in which the items
were saved, because the keys are sorted — provided the comparison key is injective on the saved items
(always true for int and tuple keys, which are dict keys; for `CallSite` keys the comparison ignores the
callee, see `C14_bundle_export_tie_follows_save_order`). -/
theorem C14_perm_bundle_export {ρ : Type} (cmpKey : List Int → List Int)
    {items₁ items₂ : List (List Int × List ρ)}
    (hinj : ∀ a ∈ items₁, ∀ b ∈ items₁, cmpKey a.1 = cmpKey b.1 → a = b)
    (h : items₁ ~ items₂) :
    bundleExport cmpKey items₁ = bundleExport cmpKey items₂ := by
  unfold bundleExport
  congr 2
  refine sortLe_eq_of_perm ?_ ?_ ?_ h
  · intro a b c; exact lexLe_trans _ _ _
  · intro a b; exact lexLe_total _ _
  · intro a ha b hb hab hba
    exact hinj a ha b hb (lexLe_antisymm _ _ hab hba)

open LianVerif.PathStore LianVerif.MaxPaths LianVerif.C19 in
/-- **C14 (call-path store).** After an add-only batch, the SET of stored call paths does not depend on
the order of the batch.  Corollary of `C19_add_only_maximal`: the stored paths are the maximal valid added
paths, a notion that only mentions membership. -/
theorem C14_perm_pathstore {α : Type} [DecidableEq α] (valid : α → Bool) {ops₁ ops₂ : List (Op α)}
    (h : ops₁ ~ ops₂) (hadd : addOnly ops₁ = true) :
    ∀ p, p ∈ (run (step valid) Store.empty ops₁).1.terms ↔ p ∈ (run (step valid) Store.empty ops₂).1.terms := by
  have hadd₂ : addOnly ops₂ = true := by rw [addOnly_eq_all, ← h.all_eq, ← addOnly_eq_all]; exact hadd
  have hv : validAdded valid ops₁ ~ validAdded valid ops₂ := by
    rw [validAdded_eq_filterMap, validAdded_eq_filterMap]; exact h.filterMap _
  intro p
  rw [C19_add_only_maximal valid ops₁ hadd p, C19_add_only_maximal valid ops₂ hadd₂ p, hv.mem_iff,
    maximalIn, maximalIn, hv.any_eq]

mutual
  def entrySize : Entry → Nat
    | .file _ => 1
    | .dir _ cs => 1 + entriesSize cs
  def entriesSize : List Entry → Nat
    | [] => 0
    | e :: es => entrySize e + entriesSize es
end

mutual
  theorem numberEntry_spec (parent next : Nat) : ∀ (e : Entry),
      (numberEntry parent next e).1 = next + entrySize e ∧
      (numberEntry parent next e).2.map (fun r => r.1) = List.range' next (entrySize e)
    | .file name => by simp [numberEntry, entrySize]
    | .dir name cs => by
      have ih := numberEntries_spec next (next + 1) cs
      simp only [numberEntry, entrySize]
      refine ⟨by rw [ih.1, Nat.add_assoc], ?_⟩
      rw [map_cons, ih.2, Nat.add_comm 1, List.range'_succ]
  theorem numberEntries_spec (parent next : Nat) : ∀ (es : List Entry),
      (numberEntries parent next es).1 = next + entriesSize es ∧
      (numberEntries parent next es).2.map (fun r => r.1) = List.range' next (entriesSize es)
    | [] => by simp [numberEntries, entriesSize]
    | e :: es => by
      have h1 := numberEntry_spec parent next e
      have h2 := numberEntries_spec parent (numberEntry parent next e).1 es
      simp only [numberEntries, entriesSize]
      refine ⟨by rw [h2.1, h1.1, Nat.add_assoc], ?_⟩
      rw [map_append, h1.2, h2.2, h1.1, List.range'_append_1]
end

/-- **C14 (ids from counters).** The module/unit ids handed out by `ModuleSymbolsBuilder` are, in emission
order, exactly `start, start+1, …`: the id of an entry is `start` + its position in the depth-first scan.
So ids are a function of the LIST of entries the file system returned (names, hashes of names and file
contents play no role) — and of nothing else.  The scan order itself (`os.scandir`) is an input of the
model: hypothesis SameUnitOrder of the whole-run claim (harness/lv/c14.py), monitored by comparing `frontend/module_symbols`
across runs (see also `C14_ids_depend_on_scan_order`). -/
theorem C14_ids_from_counters (start : Nat) (src externs : List Entry) :
    (numberModules start src externs).map (fun r => r.1) =
      List.range' start (entriesSize src + entriesSize externs) := by
  have h1 := numberEntries_spec 0 start src
  have h2 := numberEntries_spec 0 (numberEntries 0 start src).1 externs
  simp only [numberModules]
  rw [map_append, h1.2, h2.2, h1.1, List.range'_append_1]

def kc : Consts := { parameterDecl := "%parameter_decl", packedPositional := "%packed_pos_pmt",
                     packedNamed := "%packed_named_pmt", arrayElement := 12, fieldElement := 10 }

def pa : Param := ⟨0, "a", 10⟩
def pb : Param := ⟨1, "b", 11⟩
def pc : Param := ⟨2, "c", 12⟩
def argX : Arg := ⟨5, 50, 7, "[]"⟩
/-- `def f(a, b=1, c=2)` called as `f(x)`: parameters b and c are left to their defaults; `order` is the
iteration order of `rest_parameters` -/
def inRest (order : List Param) : MapIn :=
  { allParams := order, positional := [pa, pb, pc], packedPositional := none, packedNamed := none,
    posArgs := [[argX]], namedArgs := [], defaults := [(11, 21), (12, 22), (10, 0)] }

example : (mapArgs kc (inRest [pa, pb, pc])).length = 3 ∧
    mapArgs kc (inRest [pc, pa, pb]) = mapArgs kc (inRest [pa, pb, pc]) ∧
    (mapArgs kc (inRest [pc, pa, pb])).map (fun m => (m.paramSymbolId, m.argStateId, m.isDefault)) =
      [(10, 50, false), (11, 21, true), (12, 22, true)] := by decide +kernel

def argM1 : Arg := ⟨8, 80, 3, "[]"⟩
def argM2 : Arg := ⟨9, 90, 3, "[]"⟩
/-- `f(x, b=m)` where `m` has two states (`argM1`, `argM2`: indexes 8 and 9), iterated in `order` -/
def inNamed (order : List Arg) : MapIn :=
  { allParams := [pa, pb, pc], positional := [pa, pb, pc], packedPositional := none, packedNamed := none,
    posArgs := [[argX]], namedArgs := [("b", order)], defaults := [(11, 21), (12, 22), (10, 0)] }

example : mapArgs kc (inNamed [argM2, argM1]) = mapArgs kc (inNamed [argM1, argM2]) ∧
    (mapArgs kc (inNamed [argM2, argM1])).map (fun m => (m.paramSymbolId, m.argIndexInSpace)) =
      [(10, 5), (11, 8), (11, 9), (12, -1)] := by decide +kernel

example : requireValues [(7, "b.php"), (3, "a.php"), (5, "b.php"), (9, "")] = ["a.php", "b.php"] := by decide +kernel

example : bundleExport id [([3], ["r3"]), ([1], ["r1a", "r1b"]), ([2], [])] = ["r1a", "r1b", "r3"] := by decide +kernel

example : numberModules 100 [.dir "proj" [.file "a.py", .dir "pkg" [.file "m.py"]]] [.file "ext.py"] =
    [(100, "proj", 0, false), (101, "a.py", 100, true), (102, "pkg", 100, false), (103, "m.py", 102, true),
     (104, "ext.py", 0, true)] := by decide +kernel

open LianVerif.PathStore LianVerif.C19 in
example : (run (step vNat) Store.empty [.add [1], .add [1, 2], .add [3]]).1.terms = [[1, 2], [3]] ∧
    (run (step vNat) Store.empty [.add [3], .add [1, 2], .add [1]]).1.terms = [[3], [1, 2]] ∧
    addOnly [Op.add [1], .add [1, 2], .add [3]] = true := by decide +kernel

/-! ### the pinned commit at the six repaired sites (1 and 2: `map_arguments`; 3–6: sections 2, 2b, 2c, 2d),
then the live sites that still follow an iteration order -/

/-- **Pinned commit, site 1** (frozen model `mapArgs0`): a call that leaves two parameters to their
defaults — two iteration orders of the `rest_parameters` set give different mapping lists. -/
theorem C14_unfixed_counterexample_rest_params :
    mapArgs0 kc (inRest [pa, pb, pc]) ≠ mapArgs0 kc (inRest [pa, pc, pb]) := by decide +kernel

/-- **Pinned commit, site 2**: a keyword argument with two states — two iteration orders of its
`Argument` set give different mapping lists (also after the first repair alone: `mapArgs1`). -/
theorem C14_unfixed_counterexample_named_args :
    mapArgs0 kc (inNamed [argM1, argM2]) ≠ mapArgs0 kc (inNamed [argM2, argM1]) ∧
    mapArgs1 kc (inNamed [argM1, argM2]) ≠ mapArgs1 kc (inNamed [argM2, argM1]) := by decide +kernel

/-- **Pinned commit, site 3**: `require_values` is a set of strings; the states are created in its
iteration order. -/
theorem C14_unfixed_counterexample_require :
    requireValues0 ["uno.php", "dos.php"] ≠ requireValues0 ["dos.php", "uno.php"] := by decide +kernel

/-- **Pinned commit, site 4**: the element types of a TypeScript array literal came out in the iteration
order of a set of strings. -/
theorem C14_unfixed_counterexample_array_types :
    arrayTypes0 ["number", "string"] ≠ arrayTypes0 ["string", "number"] := by decide +kernel

example : arrayTypes ["number", "string", "number", "identifier"] = ["number", "string", "identifier"] := by decide +kernel

/-- **Pinned commit, site 5**: the same user source `proj/a.py`, analysed into the workspace `w` and into the
workspace `a/lian_workspace/externs/w`: only the second is taken for extern mock code (and rewritten by
`replace_percent_symbol_in_mock`). -/
theorem C14_unfixed_counterexample_mock_location :
    mockUnit0 "lian_workspace/externs" "w/lian_workspace/src/proj/a.py" = false ∧
    mockUnit0 "lian_workspace/externs" "a/lian_workspace/externs/w/src/proj/a.py" = true := by decide +kernel

/-- **Pinned commit, site 6**: workspace `w` given as a relative path — the scanned entry `w/…/a.py` is not a
key of the table (keyed by real paths), the unit loses its source; given as an absolute path it is found. -/
theorem C14_unfixed_counterexample_relative_workspace :
    originalPath0 [("/r/w/lian_workspace/src/proj/a.py", "/in/proj/a.py")] "w/lian_workspace/src/proj/a.py" = "" ∧
    originalPath0 [("/r/w/lian_workspace/src/proj/a.py", "/in/proj/a.py")] "/r/w/lian_workspace/src/proj/a.py"
      = "/in/proj/a.py" := by decide +kernel

/-- **Live code, not order-independent** (monitored, no failing input known): `CallSite.__lt__` compares
(caller_id, call_stmt_id) only, so two call sites of one call statement with different callees are not
ordered by `sorted(keys)` and their blocks are exported in SAVE order. -/
theorem C14_bundle_export_tie_follows_save_order :
    bundleExport callSiteKey [([1, 5, 20], ["to20"]), ([1, 5, 30], ["to30"])] ≠
    bundleExport callSiteKey [([1, 5, 30], ["to30"]), ([1, 5, 20], ["to20"])] := by decide +kernel

/-- **Live code, not order-independent** (monitored, no failing input known): `CallPathLoader.export`
numbers the rows by enumerating a set.  The elements hash ints only, so CPython's iteration order is a
function of the insertion history and does not depend on the hash seed — the code itself sorts nothing. -/
theorem C14_call_path_rows_follow_iteration_order :
    callPathRows ["p", "q"] ≠ callPathRows ["q", "p"] ∧
    (callPathRows ["p", "q"]).map Prod.snd ~ (callPathRows ["q", "p"]).map Prod.snd := by
  refine ⟨?_, ?_⟩
  · decide +kernel
  · show ["p", "q"] ~ ["q", "p"]
    exact Perm.swap _ _ _

/-- **The scan order is an input**: the same two files returned by the file system in the other order
get the other ids (the harness's hypothesis SameUnitOrder is necessary). -/
theorem C14_ids_depend_on_scan_order :
    numberModules 100 [.file "a.py", .file "b.py"] [] ≠ numberModules 100 [.file "b.py", .file "a.py"] [] := by
  decide +kernel

end LianVerif.C14
