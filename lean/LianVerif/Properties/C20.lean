/-
C20 — Entry points and unit initialisers are selected exactly as configured.

Model: LianVerif/Model/EntryPoints.lean (`select`, `runP1` mirror EntryPointGenerator and the unit loop
       of P1.run; `p3Run`, `taintRun` are the abstract consumers of the saved set).
Spec:  LianVerif/Spec/EntrySelect.lean (`Selected`, `UnitOk`, `MethodOk`, `IsRuleFile`).

Strength: the selection theorems are full strength for the model (all rule lists, all unit tables,
unbounded).  The "start set" / "flows" theorems are stated over an abstract per-entry analysis
`analyse` and an abstract per-graph flow finder `flowsOf`: they prove the *plumbing* (one root per
selected id, graphs are looked up by entry id only) and say nothing about what `analyse` and
`flowsOf` compute — that is C07 / C10 / C11.
-/
import LianVerif.Proofs.EntryPoints

namespace LianVerif.C20
open LianVerif.EntryPoints LianVerif.EntrySelect

abbrev Units := List (UnitInfo × List MethodScope)

/-- **C20 (decision logic).**  The two nested loops with their `continue`/`break`, the accumulator
shared across units and the "save only when there are candidate rules" step compute exactly the
existential: a declaration id is selected iff some rule accepts the unit and the method scope. -/
theorem C20_select_iff (rules : List Rule) (units : Units) (id : Int) :
    id ∈ select rules units ↔ Selected rules units id := by
  rw [select_mem]
  unfold Selected UnitSelects
  constructor
  · rintro ⟨um, hum, m, hm, ⟨r, hr, h⟩, hid⟩
    exact ⟨r, hr, um, hum, m, hm, hid, h⟩
  · rintro ⟨r, hr, um, hum, m, hm, hid, h⟩
    exact ⟨um, hum, m, hm, ⟨r, hr, h⟩, hid⟩

theorem C20_select_nodup (rules : List Rule) (units : Units) : (select rules units).Nodup :=
  select_nodup rules units

/-- what the loader holds (`saved`) and what the generator accumulated (`results`) are the same set,
although saving is skipped for units without candidate rules -/
theorem C20_saved_eq_results (rules : List Rule) (units : Units) :
    ∀ x, x ∈ (collectAll rules units).saved ↔ x ∈ (collectAll rules units).results :=
  collectAll_agree rules units

theorem C20_monotone {rules rules' : List Rule} {units units' : Units}
    (hr : ∀ r ∈ rules, r ∈ rules') (hu : ∀ um ∈ units, um ∈ units') :
    ∀ id ∈ select rules units, id ∈ select rules' units' := by
  intro id h
  rw [C20_select_iff] at h ⊢
  obtain ⟨r, h1, um, h2, rest⟩ := h
  exact ⟨r, hr r h1, um, hu um h2, rest⟩

theorem C20_empty (units : Units) : select [] units = [] := by
  apply List.eq_nil_iff_forall_not_mem.2
  intro id h
  rw [C20_select_iff] at h
  obtain ⟨r, hr, _⟩ := h
  exact absurd hr (by simp)

theorem C20_no_units (rules : List Rule) : select rules [] = [] := rfl

/-- the order of rules (os.walk order of the settings directory, order inside a file) and the order
of units do not matter for the selected set -/
theorem C20_order_irrelevant {rules rules' : List Rule} {units units' : Units}
    (hr : rules.Perm rules') (hu : units.Perm units') :
    ∀ id, id ∈ select rules units ↔ id ∈ select rules' units' := by
  intro id
  constructor
  · exact C20_monotone (fun r h => hr.mem_iff.1 h) (fun u h => hu.mem_iff.1 h) id
  · exact C20_monotone (fun r h => hr.mem_iff.2 h) (fun u h => hu.mem_iff.2 h) id

/-- **unit filter**: every selected id is a method scope of a unit that satisfies all unit-level
conditions (`lang`, `unit_id`, `unit_name`, `unit_path`) of one and the same rule -/
theorem C20_unit_filter {rules : List Rule} {units : Units} {id : Int} (h : id ∈ select rules units) :
    ∃ r ∈ rules, ∃ um ∈ units, (∃ m ∈ um.2, m.stmtId = id) ∧
      (r.lang ≠ [] → r.lang = um.1.lang) ∧ (0 ≤ r.unitId → r.unitId = um.1.moduleId) ∧
      r.unitName <:+: basename um.1.path ∧ r.unitPath <:+: um.1.path := by
  rw [C20_select_iff] at h
  obtain ⟨r, hr, um, hum, m, hm, hid, hu, _⟩ := h
  exact ⟨r, hr, um, hum, ⟨m, hm, hid⟩, hu⟩

theorem C20_unit_filter_excludes {rules : List Rule} {units : Units} {id : Int}
    (h : ∀ um ∈ units, (∃ m ∈ um.2, m.stmtId = id) → ∀ r ∈ rules, ¬ UnitOk r um.1) :
    id ∉ select rules units := by
  intro hs
  rw [C20_select_iff] at hs
  obtain ⟨r, hr, um, hum, m, hm, hid, hu, _⟩ := hs
  exact h um hum ⟨m, hm, hid⟩ r hr hu

theorem C20_selected_are_methods {rules : List Rule} {units : Units} {id : Int}
    (h : id ∈ select rules units) : ∃ um ∈ units, ∃ m ∈ um.2, m.stmtId = id := by
  rw [C20_select_iff] at h
  obtain ⟨_, _, um, hum, m, hm, hid, _⟩ := h
  exact ⟨um, hum, m, hm, hid⟩

/-- **method_id short-circuit**: a rule that gives a `method_id ≥ 0` selects exactly the scopes with
that id in units passing its unit filter; its `method_list`, `attrs`, `args`, `return_type` are
never looked at -/
theorem C20_method_id_shortcircuit (r : Rule) (h : 0 ≤ r.methodId) (units : Units) (id : Int) :
    id ∈ select [r] units ↔
      (id = r.methodId ∧ ∃ um ∈ units, UnitOk r um.1 ∧ ∃ m ∈ um.2, m.stmtId = id) := by
  rw [C20_select_iff]
  unfold Selected MethodOk
  simp only [List.mem_singleton, exists_eq_left, h, if_true]
  constructor
  · rintro ⟨um, hum, m, hm, hid, hu, he⟩
    exact ⟨by rw [← hid, he], um, hum, hu, m, hm, hid⟩
  · rintro ⟨he, um, hum, hu, m, hm, hid⟩
    exact ⟨um, hum, m, hm, hid, hu, by rw [hid, he]⟩

/-- **args / return_type**: a rule (without `method_id`) that sets either never selects anything -/
theorem C20_args_never_match (r : Rule) (h : r.methodId < 0) (ha : r.args ≠ [] ∨ r.returnType ≠ [])
    (units : Units) : select [r] units = [] := by
  apply List.eq_nil_iff_forall_not_mem.2
  intro id hs
  rw [C20_select_iff] at hs
  obtain ⟨r', hr', _, _, m, _, _, _, hm⟩ := hs
  rw [List.mem_singleton] at hr'
  subst hr'
  unfold MethodOk at hm
  rw [if_neg (Int.not_le.2 h)] at hm
  rcases ha with ha | ha
  · exact ha hm.2.2.1
  · exact ha hm.2.2.2

/-- **unit initialiser** (stated for any method scope `m` with name `nm` and empty attribute string,
whose declaration id is not shared with another scope; the synthetic initialiser is the instance
`nm = "%unit_init"`): it is selected iff some rule passes the unit filter of its file and either
gives its id, or has no `method_id` and does not exclude it — i.e. its `method_list`, if non-empty,
names it, and it sets no `attrs`, `args`, `return_type`. -/
theorem C20_init_iff (rules : List Rule) (units : Units) (u : UnitInfo) (ms : List MethodScope)
    (m : MethodScope) (nm : Text) (hu : (u, ms) ∈ units) (hm : m ∈ ms) (hname : m.name = nm)
    (hattrs : m.attrs = [])
    (huniq : ∀ um' ∈ units, ∀ m' ∈ um'.2, m'.stmtId = m.stmtId → um'.1 = u ∧ m' = m) :
    m.stmtId ∈ select rules units ↔
      ∃ r ∈ rules, UnitOk r u ∧
        ((0 ≤ r.methodId ∧ r.methodId = m.stmtId) ∨
         (r.methodId < 0 ∧ (r.methodList.avail = true → Names r.methodList nm) ∧
           r.attrs.avail = false ∧ r.args = [] ∧ r.returnType = [])) := by
  rw [C20_select_iff, selected_iff_of_unique hu hm huniq]
  exact exists_congr fun r => and_congr_right fun _ => and_congr_right fun _ =>
    hname ▸ methodOk_of_attrs_nil hattrs

/-- **unit initialiser, only when named.**  When every rule that has no `method_id` carries a
non-empty `method_list` (every rule "names" its methods — true of every rule of the shipped
`default_settings/entry.yaml`), the initialiser is selected iff a rule that passes the unit filter
gives its id or names it. -/
theorem C20_init_only_when_named (rules : List Rule) (units : Units) (u : UnitInfo)
    (ms : List MethodScope) (m : MethodScope) (nm : Text) (hu : (u, ms) ∈ units) (hm : m ∈ ms)
    (hname : m.name = nm) (hattrs : m.attrs = [])
    (huniq : ∀ um' ∈ units, ∀ m' ∈ um'.2, m'.stmtId = m.stmtId → um'.1 = u ∧ m' = m)
    (hnamed : ∀ r ∈ rules, r.methodId < 0 → r.methodList.avail = true) :
    m.stmtId ∈ select rules units ↔
      ∃ r ∈ rules, UnitOk r u ∧
        ((0 ≤ r.methodId ∧ r.methodId = m.stmtId) ∨
         (r.methodId < 0 ∧ Names r.methodList nm ∧
           r.attrs.avail = false ∧ r.args = [] ∧ r.returnType = [])) := by
  rw [C20_init_iff rules units u ms m nm hu hm hname hattrs huniq]
  -- only the `method_list` clause differs, and `hnamed` discharges its premise
  exact exists_congr fun r => and_congr_right fun hr => and_congr_right fun _ => or_congr_right <|
    and_congr_right fun h0 => and_congr_left' ⟨fun h1 => h1 (hnamed r hr h0), fun h1 _ => h1⟩

/-- units whose path contains `{{` or whose GIR is empty are never offered to the generator; for the
others selection is that of `C20_select_iff` -/
theorem C20_runP1_iff (rules : List Rule) (units : List P1Unit) (id : Int) :
    id ∈ runP1 rules units ↔
      ∃ r ∈ rules, ∃ u ∈ units, ¬ (['{', '{'] <:+: u.info.path) ∧ u.girEmpty = false ∧
        ∃ m ∈ u.methods, m.stmtId = id ∧ UnitOk r u.info ∧ MethodOk r m := by
  unfold runP1
  rw [C20_select_iff]
  simp only [Selected, mem_p1Analysed]
  constructor
  · rintro ⟨r, hr, _, ⟨u, hu, ⟨h1, h2⟩, rfl⟩, rest⟩
    exact ⟨r, hr, u, hu, h1, h2, rest⟩
  · rintro ⟨r, hr, u, hu, h1, h2, rest⟩
    exact ⟨r, hr, _, ⟨u, hu, ⟨h1, h2⟩, rfl⟩, rest⟩

theorem C20_settings_file_iff (req name : Text) : fileSelected req name = true ↔ IsRuleFile req name :=
  fileSelected_iff

theorem C20_rules_loaded_iff (req : Text) (files : List (Text × List Rule)) (r : Rule) :
    r ∈ loadRules req files ↔ ∃ f ∈ files, IsRuleFile req f.1 ∧ r ∈ f.2 :=
  mem_loadRules

/-- **start set = selected set**: `P3.run` creates one root frame per saved entry id, in order -/
theorem C20_starts_eq_selected {G : Type} (analyse : Int → G) (rules : List Rule) (units : List P1Unit) :
    p3Roots analyse (runP1 rules units) = runP1 rules units :=
  p3Roots_eq analyse _

theorem C20_unselected_never_root {G : Type} (analyse : Int → G) (rules : List Rule) (units : List P1Unit)
    (id : Int) (h : id ∉ runP1 rules units) : id ∉ p3Roots analyse (runP1 rules units) := by
  rw [C20_starts_eq_selected]; exact h

/-- a selected method is a start — exactly once — whether or not anything calls it -/
theorem C20_selected_is_root_once {G : Type} (analyse : Int → G) (rules : List Rule) (units : List P1Unit)
    (id : Int) (h : id ∈ runP1 rules units) : (p3Roots analyse (runP1 rules units)).count id = 1 := by
  rw [C20_starts_eq_selected]
  have h1 := List.nodup_iff_count.1 (C20_select_nodup rules (p1Analysed units)) id
  have h2 := List.count_pos_iff.2 h
  unfold runP1 at h2 ⊢
  exact Nat.le_antisymm h1 h2

/-- **flows come from entries only**: the taint phase reports exactly the flows found in the graphs
P3 saved under selected entry ids (restricted to ids the loader lists as methods) -/
theorem C20_flows_from_entries_only {G F : Type} (flowsOf : G → List F) (analyse : Int → G)
    (rules : List Rule) (units : List P1Unit) (allMethods : List Int) (f : F) :
    f ∈ taintRun flowsOf (p3Run analyse (runP1 rules units)) allMethods ↔
      ∃ e ∈ runP1 rules units, e ∈ allMethods ∧ f ∈ flowsOf (analyse e) :=
  mem_taintRun flowsOf analyse _ allMethods f

/-- when the loader's method-id list contains every method scope of the analysed units, no selected
entry is lost on the way to the taint phase -/
theorem C20_every_entry_reaches_taint {G F : Type} (flowsOf : G → List F) (analyse : Int → G)
    (rules : List Rule) (units : List P1Unit) (allMethods : List Int)
    (hall : ∀ um ∈ p1Analysed units, ∀ m ∈ um.2, m.stmtId ∈ allMethods) (f : F) :
    f ∈ taintRun flowsOf (p3Run analyse (runP1 rules units)) allMethods ↔
      ∃ e ∈ runP1 rules units, f ∈ flowsOf (analyse e) := by
  rw [C20_flows_from_entries_only]
  refine exists_congr fun e => and_congr_right fun he => and_iff_right ?_
  obtain ⟨um, hum, m, hm, hid⟩ := C20_selected_are_methods he
  exact hid ▸ hall um hum m hm

def t (s : List Char) : Text := s
def pyA : UnitInfo := { lang := ['p', 'y'], moduleId := 101, path := ['s', '/', 'a', 'a', '.', 'p', 'y'] }
def pyB : UnitInfo := { lang := ['p', 'y'], moduleId := 103, path := ['s', '/', 'b', '.', 'p', 'y'] }
def init : Text := ['%', 'i']
def mA : List MethodScope := [⟨5, ['f'], []⟩, ⟨9, ['g'], ['[', 's', ']']⟩, ⟨12, init, []⟩]
def mB : List MethodScope := [⟨20, ['f'], []⟩, ⟨25, init, []⟩]
def us : Units := [(pyA, mA), (pyB, mB)]

example : select [{ methodList := .list [['f']] }] us = [5, 20] := by decide +kernel
/-- the initialiser only when named -/
example : select [{ methodList := .list [init] }] us = [12, 25] := by decide +kernel
example : select [{ lang := ['j'], methodList := .list [['f']] }] us = [] := by decide +kernel
/-- overlapping rules: an id is saved once -/
example : select [{ methodList := .list [['f']] }, { lang := ['p', 'y'], methodList := .list [['f'], init] }] us
    = [5, 12, 20, 25] := by decide +kernel
/-- substring semantics of `unit_name`: "a.py" matches the file "aa.py"; of `unit_path`: "s/b" -/
example : select [{ unitName := ['a', '.', 'p', 'y'], methodList := .list [['f']] }] us = [5] := by decide +kernel
example : select [{ unitPath := ['s', '/', 'b'], methodList := .list [['f']] }] us = [20] := by decide +kernel
/-- `unit_name` is tested against the basename only: a directory part never matches -/
example : select [{ unitName := ['s', '/', 'b'], methodList := .list [['f']] }] us = [] := by decide +kernel
/-- `method_id` decides alone although name list, attrs and args would all reject -/
example : select [{ methodId := 9, methodList := .list [['x']], attrs := .list [['q']], args := ['a'] }] us = [9] := by
  decide +kernel
/-- `attrs` are substrings of the attribute string; a scope without attributes never matches -/
example : select [{ attrs := .list [['s']] }] us = [9] := by decide +kernel
/-- `args` / `return_type` select nothing -/
example : select [{ methodList := .list [['f']], args := ['a'] }] us = [] := by decide +kernel
/-- a rule without any condition selects every method scope, initialisers included -/
example : select [{}] us = [5, 9, 12, 20, 25] := by decide +kernel
/-- `method_list` given as a string: substring test -/
example : select [{ methodList := .str ['x', 'f', 'y'] }] us = [5, 20] := by decide +kernel
/-- cookiecutter paths and empty GIR are skipped by P1 -/
example : runP1 [{}] [{ info := { pyA with path := ['{', '{', 'a'] }, methods := mA },
                      { info := pyB, girEmpty := true, methods := mB }, { info := pyB, methods := mB }]
    = [20, 25] := by decide +kernel
example : [['e'], ['x', '-', 'e'], ['-', 'e'], ['-', 'x', '-', 'e'], ['x', 'e'], ['x', '-', 'y', '-', 'e']].map
    (fileSelected ['e']) = [true, true, false, false, false, true] := by decide +kernel
/-- the hypotheses of `C20_init_only_when_named` are satisfiable and both sides can be true -/
example : (25 : Int) ∈ select [{ unitName := ['b'], methodList := .list [init] }] us := by decide +kernel

end LianVerif.C20
