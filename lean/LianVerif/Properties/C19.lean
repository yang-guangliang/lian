/-
C19 — The call-path store keeps exactly the maximal paths.

Model: LianVerif/Model/PathStore.lean (`step` = live code in /repo, `step0` = pinned commit, frozen).
Spec:  LianVerif/Spec/MaxPaths.lean.
-/
import LianVerif.Proofs.PathStore

namespace LianVerif.C19
open LianVerif.PathStore LianVerif.MaxPaths

variable {α : Type} [DecidableEq α]

/-- **C19 (refinement).** For every validity predicate and every history of add / remove / exists
operations from the empty store, the store returns at every step the value the set-of-maximal-paths
specification returns, and holds after every step exactly the specification's paths. -/
theorem C19_refines (valid : α → Bool) (ops : List (Op α)) :
    (run (step valid) Store.empty ops).2 = (specRun valid [] ops).2 ∧
    (run (step valid) Store.empty ops).1.terms = (specRun valid [] ops).1 := by
  have := refines_from valid ops (Store.empty : Store α) inv_empty
  exact ⟨this.2.2, this.2.1⟩

/-! ### Consequences, proved on the specification and transported by `C19_refines`. -/

/-- **C19 (no duplicates, no invalid site, only maximal paths — every history, every step).** -/
theorem C19_store_ok (valid : α → Bool) (ops : List (Op α)) :
    ∀ o ∈ (run (step valid) Store.empty ops).2,
      o.2.Nodup ∧ (∀ p ∈ o.2, p.all valid = true) ∧
      (∀ p ∈ o.2, ∀ q ∈ o.2, strictPrefix p q = false) := by
  rw [(C19_refines valid ops).1]
  exact (specRun_ok_nil valid ops).2

/-- `C19_store_ok` speaks of the states recorded after each step; `C19_no_dup` and `C19_no_invalid` say the
same of the final state, also when `ops = []`. -/
theorem C19_no_dup (valid : α → Bool) (ops : List (Op α)) :
    (run (step valid) Store.empty ops).1.terms.Nodup := by
  rw [(C19_refines valid ops).2]
  exact (specRun_ok_nil valid ops).1.1

theorem C19_no_invalid (valid : α → Bool) (ops : List (Op α)) :
    ∀ p ∈ (run (step valid) Store.empty ops).1.terms, p.all valid = true := by
  rw [(C19_refines valid ops).2]
  exact (specRun_ok_nil valid ops).1.2.1

/-- **C19 (first sentence of the statement).** After any sequence of additions (and lookups), a
path is stored iff it is a valid added path that is not a proper prefix of another valid added
path; together with `C19_no_dup` the stored *set* is exactly the set of maximal valid added paths. -/
theorem C19_add_only_maximal (valid : α → Bool) (ops : List (Op α)) (h : addOnly ops = true) :
    ∀ p, p ∈ (run (step valid) Store.empty ops).1.terms ↔
      (p ∈ validAdded valid ops ∧ maximalIn (validAdded valid ops) p = true) := by
  rw [(C19_refines valid ops).2]
  have := specRun_addOnly valid ops [] [] (by intro p; simp) h
  rw [List.nil_append] at this
  exact this

/-- **C19 (last sentence).** A valid path that is not stored and has no stored proper extension is
accepted — in every reachable state, in particular right after the removal of its last extension. -/
theorem C19_readd_after_remove (valid : α → Bool) (ops : List (Op α)) (p : List α)
    (hv : p.all valid = true)
    (hfree : ∀ q ∈ (run (step valid) Store.empty ops).1.terms, p.isPrefixOf q = false) :
    (step valid (run (step valid) Store.empty ops).1 (.add p)).2 = true ∧
    p ∈ (step valid (run (step valid) Store.empty ops).1 (.add p)).1.terms :=
  step_add_free valid (refines_from valid ops (Store.empty : Store α) inv_empty).1 hv fun ⟨q, hq, hpq⟩ => by
    have := hfree q hq
    rw [List.isPrefixOf_iff_prefix.2 hpq] at this
    cases this

def vNat : Nat → Bool := fun n => n != 0   -- 0 plays the invalid call site

-- eviction, refusal, removal and re-adding in one history
example : (run (step vNat) Store.empty
    [.add [1], .add [1, 2], .add [1], .add [3, 0], .remove [1, 2], .add [1], .add [], .add [2]]).2
    = [(true, [[1]]), (true, [[1, 2]]), (false, [[1, 2]]), (false, [[1, 2]]), (true, []),
       (true, [[1]]), (false, [[1]]), (true, [[1], [2]])] := by decide +kernel

example : addOnly [Op.add [1], .add [1, 2], .exist [1]] = true ∧
    maximalIn (validAdded vNat [Op.add [1], .add [1, 2], .exist [1]]) [1, 2] = true := by decide +kernel

/-! ### The pinned commit (frozen model `step0`) violates the property: two minimal witnesses. -/

/-- add [a,b]; remove [a,b]; add [a] — the last add is refused although nothing extends [a]. -/
theorem C19_unfixed_counterexample_readd :
    (run (step0 vNat) Store.empty [.add [1, 2], .remove [1, 2], .add [1]]).2
      ≠ (specRun vNat [] [.add [1, 2], .remove [1, 2], .add [1]]).2 := by decide +kernel

/-- add []; add [a] — the empty path is a proper prefix of [a] but stays stored. -/
theorem C19_unfixed_counterexample_empty :
    (run (step0 vNat) Store.empty [.add [], .add [1]]).2
      ≠ (specRun vNat [] [.add [], .add [1]]).2 := by decide +kernel

end LianVerif.C19
